/-
  C19 — dataset classes: members are evaluations; equality follows the relevant options.

  "Instantiating a dataset class with options sets every evaluatable member to its evaluation
   under those options and every plain member to its constant, and the class's validate, keys and
   explain are the union over its members.  Two instances compare equal exactly when the options
   each was built from, restricted to the keys the class reports for them (including nested dotted
   keys), are equal, and repr shows those keys with their values."

  All theorems are about an arbitrary class: any number of members, each an arbitrary quadruple of
  functions of the options (`Evaluatable`), keys of any nesting depth.  Model:
  `LabreaModel/DatasetClass.lean`; helper lemmas: `LabreaModel/DatasetClassLemmas.lean`.
-/
import LabreaModel.DatasetClassLemmas
namespace Labrea.DatasetClass
open Labrea

/-- after a successful `cls(o)`, attribute by attribute in `dir` order: a plain member holds its
    constant, an evaluatable member holds its evaluation under `o` (a `__`-member is untouched) -/
theorem members_evaluated {c : DsClass} {o : V} {i : Inst} (h : instantiate c o = .ok i) :
    i.cls = c.name ∧ AllPairs (AttrOK o) c.members i.attrs := by
  obtain ⟨attrs, K, R, hm, _, _, rfl⟩ := instantiate_ok h
  exact ⟨rfl, evalMembers_ok hm⟩

example : ∃ i, instantiate cOverlap oXY = .ok i ∧
    i.attrs = [("a", .val (.dict [("X", .int 2), ("Y", .int 3)])), ("ax", .val (.int 2)),
      ("b", .val (.int 3)), ("c", .val (.int 9)), ("d", .val (.list [.int 5]))] :=
  ⟨_, rfl, by decide⟩

/-- the first member (in `dir` order) whose evaluation fails decides the outcome of `cls(o)` -/
theorem members_first_failure {c : DsClass} {o : V} {pre post : List (String × Member)}
    {n : String} {e : Evaluatable} {x : Err} (hm : c.members = pre ++ (n, .ev e) :: post)
    (hpre : ∀ m ∈ pre, ∃ a, evalMember o m = .ok a) (hn : hidden n = false)
    (he : e.evaluate o = .error x) : instantiate c o = .error x := by
  simp [instantiate, hm, evalMembers_first_failure hpre hn he]

example : errOf (instantiate cOverlap (.dict [("A", .dict [])])) = some (.keyNotFound ["A", "X"]) := by
  decide

/-- `keys` and `explain` of the class succeed exactly when those of every (non-`__`) evaluatable
    member do, and then report exactly the union; `validate` of the class passes exactly when every
    member's does; the members looked at are the evaluatable attributes whose name does not start
    with `__` -/
theorem class_ops_union (c : DsClass) (o : V) :
    ((∃ K, classKeys c o = .ok K) ↔ ∀ e ∈ evs c.members, ∃ Ke, e.keys o = .ok Ke) ∧
    (∀ K, classKeys c o = .ok K →
      ∀ k, k ∈ K ↔ ∃ e ∈ evs c.members, ∃ Ke, e.keys o = .ok Ke ∧ k ∈ Ke) ∧
    ((∃ K, classExplain c o = .ok K) ↔ ∀ e ∈ evs c.members, ∃ Ke, e.explain o = .ok Ke) ∧
    (∀ K, classExplain c o = .ok K →
      ∀ k, k ∈ K ↔ ∃ e ∈ evs c.members, ∃ Ke, e.explain o = .ok Ke ∧ k ∈ Ke) ∧
    (classValidate c o = .ok () ↔ ∀ e ∈ evs c.members, e.validate o = .ok ()) ∧
    (∀ e, e ∈ evs c.members ↔ ∃ n, (n, Member.ev e) ∈ c.members ∧ hidden n = false) :=
  ⟨collect_ok_iff _ _, fun _ h k => collect_mem h k, collect_ok_iff _ _,
   fun _ h k => collect_mem h k, validateAll_ok_iff o _, fun _ => mem_evs⟩

/-- …and when a member fails, the first failing one (in `dir` order) decides the exception -/
theorem class_ops_first_failure {c : DsClass} {o : V} {pre post : List Evaluatable}
    {e : Evaluatable} {x : Err} (hm : evs c.members = pre ++ e :: post) :
    ((∀ e' ∈ pre, ∃ Ke, e'.keys o = .ok Ke) → e.keys o = .error x → classKeys c o = .error x) ∧
    ((∀ e' ∈ pre, ∃ Ke, e'.explain o = .ok Ke) → e.explain o = .error x →
      classExplain c o = .error x) ∧
    ((∀ e' ∈ pre, e'.validate o = .ok ()) → e.validate o = .error x →
      classValidate c o = .error x) := by
  refine ⟨fun h1 h2 => ?_, fun h1 h2 => ?_, fun h1 h2 => ?_⟩
  · simp only [classKeys, hm]; exact collect_first_failure h1 h2
  · simp only [classExplain, hm]; exact collect_first_failure h1 h2
  · simp only [classValidate, hm]; exact validateAll_first_failure h1 h2

example : (classKeys cOverlap oXY).toOption = some [["A"], ["A", "X"]] ∧
    (classExplain cOverlap (.dict [])).toOption = some [["A"], ["A", "X"]] ∧
    errOf (classValidate cOverlap (.dict [])) = some (.keyNotFound ["A"]) ∧
    errOf (classValidate cOverlap oXY) = Option.none := by decide

/-- **core lemma.**  Let every key of `K` be non-empty, free of index segments and present in `o`
    (`Present`; `K` in any order, with any prefix overlap such as `A` together with `A.X`).  Then
    the fold `set_dotted_key(k, get_dotted_key(k, o), acc)` over `K` succeeds and the dictionary
    `R` it builds is `o` restricted to `K`:
    (1) `get_dotted_key(k, R) = get_dotted_key(k, o)` for every `k ∈ K`, and (2) likewise for every
    key under a key of `K`; (3) `R` holds nothing else: every entry of `R`, at any depth, lies on the
    way to, at, or under a key of `K`; so (4) an index-free key that is unrelated to every key of
    `K` is not found in `R`. -/
theorem repr_options_lookup {o : V} {K : List Path} (hK : Present o K) :
    ∃ R, reprOptions o K [] = .ok R ∧ IsRestrict o K R ∧
      (∀ k ∈ K, walk k (.dict R) = walk k o) ∧
      (∀ k ∈ K, ∀ s, walk (k ++ s) (.dict R) = walk (k ++ s) o) ∧
      (∀ p v, p ≠ [] → dget p (.dict R) = some v →
        (∃ k ∈ K, k <+: p) ∨ (∃ k ∈ K, p <+: k)) ∧
      (∀ p, p ≠ [] → NoIdx p → (∀ k ∈ K, ¬ k <+: p ∧ ¬ p <+: k) →
        ∀ v, walk p (.dict R) ≠ .found v) := by
  obtain ⟨R, hR, spec⟩ := reprOptions_isRestrict hK
  refine ⟨R, hR, spec, spec.lookup, fun k hk s => spec.lookup_under hk s, spec.exact, ?_⟩
  intro p hp hn hun v hv
  rcases spec.exact p v hp ((walk_found_iff_dget hn _ v).1 hv) with ⟨k, hk, h⟩ | ⟨k, hk, h⟩
  · exact (hun k hk).1 h
  · exact (hun k hk).2 h

example : Present oXY [["A"], ["A", "X"]] := cOverlap_present_oXY

/-- the side condition is needed, clause by clause.  *Index segments*: with `L = [1, 2]` the key
    `L.0` is present, the fold builds `{'L': {'0': 1}}`, and `L.0` is **not** found in it; together
    with the key `L` the fold itself fails (the real code raises `TypeError` from
    `set_dotted_key`).  *Presence*: a reported key that is absent makes the fold fail (`KeyError`). -/
theorem repr_options_side_conditions_needed :
    (walk ["L", "0"] (.dict [("L", .list [.int 1, .int 2])]) = .found (.int 1) ∧
     (reprOptions (.dict [("L", .list [.int 1, .int 2])]) [["L", "0"]] []).toOption
        = some [("L", .dict [("0", .int 1)])] ∧
     walk ["L", "0"] (.dict [("L", .dict [("0", .int 1)])]) = .keyErr) ∧
    errOf (reprOptions (.dict [("L", .list [.int 1, .int 2])]) [["L"], ["L", "0"]] [])
      = some .rawType ∧
    errOf (reprOptions (.dict []) [["A"]] []) = some (.rawKey ["A"]) := by decide

/-- `repr(inst)` is the class name applied to the restricted dictionary, built over the keys in
    sorted (dotted-string) order -/
theorem repr_shows_restricted {c : DsClass} {o : V} {i : Inst} {K : List Path}
    (h : instantiate c o = .ok i) (hK : classKeys c o = .ok K) (hP : Present o K) :
    reprInst i = c.name ++ "(" ++ pyRepr (.dict i.reprOpts) ++ ")" ∧
    reprOptions o (sortKeys K) [] = .ok i.reprOpts ∧ IsRestrict o K i.reprOpts := by
  obtain ⟨a, K', R, _, hk, hR, rfl⟩ := instantiate_ok h
  rw [hK] at hk; cases hk
  obtain ⟨R', hR', spec⟩ := reprOptions_isRestrict hP.sortKeys
  rw [hR] at hR'; cases hR'
  exact ⟨rfl, hR, spec.of_sortKeys⟩

example : (instantiate cOverlap oYX).toOption.map reprInst
    = some "C({'A': {'Y': 3, 'X': 2}})" := by decide
/-- **equality, in terms of lookups.**  For two instances of one class built from `o₁` and `o₂`, whose
    reported keys `K₁`, `K₂` satisfy the side condition: each `_repr_options` is the restriction of
    its options to its keys, and the instances compare equal exactly when each restricted
    dictionary holds, at every key reported for the *other* instance, a value Python-equal to (here:
    including, in both directions) the other options' value. -/
theorem eq_iff_restricted_lookups {c : DsClass} {o₁ o₂ : V} {i₁ i₂ : Inst} {K₁ K₂ : List Path}
    (h₁ : instantiate c o₁ = .ok i₁) (h₂ : instantiate c o₂ = .ok i₂)
    (hK₁ : classKeys c o₁ = .ok K₁) (hK₂ : classKeys c o₂ = .ok K₂)
    (hP₁ : Present o₁ K₁) (hP₂ : Present o₂ K₂) :
    IsRestrict o₁ K₁ i₁.reprOpts ∧ IsRestrict o₂ K₂ i₂.reprOpts ∧
    (instEq i₁ i₂ = true ↔
      (∀ k ∈ K₁, LookLe (walk k o₁) (walk k (.dict i₂.reprOpts))) ∧
      (∀ k ∈ K₂, LookLe (walk k o₂) (walk k (.dict i₁.reprOpts)))) := by
  obtain ⟨_, _, s₁⟩ := repr_shows_restricted h₁ hK₁ hP₁
  obtain ⟨_, _, s₂⟩ := repr_shows_restricted h₂ hK₂ hP₂
  refine ⟨s₁, s₂, ?_⟩
  rw [instEq_of_instantiate h₁ h₂, dictEqv, Bool.and_eq_true, le_restricted_iff hP₁ s₁,
    le_restricted_iff hP₂ s₂]

/-- **equality.**  Two instances of one class compare equal exactly when the options each was
    built from, restricted to the keys the class reports for them, are equal as Python
    dictionaries — for *any* dictionaries `R₁`, `R₂` that are those restrictions (`IsRestrict`: the
    keys with their values and nothing else; such a dictionary exists by `repr_options_lookup` and
    is unique up to Python equality by `restrict_unique`). -/
theorem eq_iff_restricted {c : DsClass} {o₁ o₂ : V} {i₁ i₂ : Inst} {K₁ K₂ : List Path}
    (h₁ : instantiate c o₁ = .ok i₁) (h₂ : instantiate c o₂ = .ok i₂)
    (hK₁ : classKeys c o₁ = .ok K₁) (hK₂ : classKeys c o₂ = .ok K₂)
    (hP₁ : Present o₁ K₁) (hP₂ : Present o₂ K₂) {R₁ R₂ : List (String × V)}
    (r₁ : IsRestrict o₁ K₁ R₁) (r₂ : IsRestrict o₂ K₂ R₂) :
    instEq i₁ i₂ = true ↔ dictEqv (.dict R₁) (.dict R₂) = true := by
  have u₁ := restrict_unique hP₁ (repr_shows_restricted h₁ hK₁ hP₁).2.2 r₁
  have u₂ := restrict_unique hP₂ (repr_shows_restricted h₂ hK₂ hP₂).2.2 r₂
  rw [instEq_of_instantiate h₁ h₂]
  exact ⟨fun h => dictEqv_trans (dictEqv_trans (dictEqv_symm u₁) h) u₂,
    fun h => dictEqv_trans (dictEqv_trans u₁ h) (dictEqv_symm u₂)⟩

/-- the restriction of the options to the reported keys is well defined: it exists (the fold
    builds one) and any two are equal as Python dictionaries -/
theorem restricted_exists_unique {o : V} {K : List Path} (hK : Present o K) :
    (∃ R, IsRestrict o K R) ∧
    ∀ R R', IsRestrict o K R → IsRestrict o K R' → dictEqv (.dict R) (.dict R') = true := by
  obtain ⟨R, _, spec⟩ := reprOptions_isRestrict hK
  exact ⟨⟨R, spec⟩, fun _ _ a b => restrict_unique hK a b⟩

example : (∃ R, IsRestrict oXY [["A"], ["A", "X"]] R) ∧ (∃ R, IsRestrict oYX [["A"], ["A", "X"]] R) :=
  ⟨(restricted_exists_unique cOverlap_present_oXY).1, (restricted_exists_unique cOverlap_present_oYX).1⟩

/-- **equality, when each key set lies on or under the other** (in particular when the two key
    sets coincide, and in the prefix-overlap case `K₁ = {A, A.X}`, `K₂ = {A}`): the instances
    compare equal exactly when the two option dictionaries agree (Python `==`) at every reported
    key. -/
theorem eq_iff_restricted_covering {c : DsClass} {o₁ o₂ : V} {i₁ i₂ : Inst} {K₁ K₂ : List Path}
    (h₁ : instantiate c o₁ = .ok i₁) (h₂ : instantiate c o₂ = .ok i₂)
    (hK₁ : classKeys c o₁ = .ok K₁) (hK₂ : classKeys c o₂ = .ok K₂)
    (hP₁ : Present o₁ K₁) (hP₂ : Present o₂ K₂) (hc₁ : Covers K₂ K₁) (hc₂ : Covers K₁ K₂) :
    instEq i₁ i₂ = true ↔
      (∀ k ∈ K₁, LookLe (walk k o₁) (walk k o₂)) ∧ (∀ k ∈ K₂, LookLe (walk k o₂) (walk k o₁)) := by
  obtain ⟨s₁, s₂, h⟩ := eq_iff_restricted_lookups h₁ h₂ hK₁ hK₂ hP₁ hP₂
  rw [h]
  exact and_congr (forall₂_congr fun k hk => by rw [s₂.lookup_covered hc₁ k hk])
    (forall₂_congr fun k hk => by rw [s₁.lookup_covered hc₂ k hk])

/-- **equality, same reported keys**: the instances compare equal exactly when the options agree
    at every reported key — whatever else the dictionaries contain, in whatever order. -/
theorem eq_iff_restricted_same_keys {c : DsClass} {o₁ o₂ : V} {i₁ i₂ : Inst} {K₁ K₂ : List Path}
    (h₁ : instantiate c o₁ = .ok i₁) (h₂ : instantiate c o₂ = .ok i₂)
    (hK₁ : classKeys c o₁ = .ok K₁) (hK₂ : classKeys c o₂ = .ok K₂)
    (hP₁ : Present o₁ K₁) (hP₂ : Present o₂ K₂) (hsame : ∀ k, k ∈ K₁ ↔ k ∈ K₂) :
    instEq i₁ i₂ = true ↔ ∀ k ∈ K₁, LookEqv (walk k o₁) (walk k o₂) := by
  rw [eq_iff_restricted_covering h₁ h₂ hK₁ hK₂ hP₁ hP₂
    (fun k hk => ⟨k, (hsame k).1 hk, List.prefix_refl k⟩)
    (fun k hk => ⟨k, (hsame k).2 hk, List.prefix_refl k⟩)]
  simp only [LookEqv, ← hsame, forall_and]

/-- for classes made of concrete members (options with or without constant defaults, constants,
    datasets over options) whose keys are index-free, the side condition holds by itself -/
theorem eq_iff_restricted_concrete {name : String} {ms : List (String × MemberSpec)}
    (hms : ∀ m ∈ ms, m.2.KeysOK) {o₁ o₂ : V} {i₁ i₂ : Inst} {K₁ K₂ : List Path}
    (h₁ : instantiate (concreteClass name ms) o₁ = .ok i₁)
    (h₂ : instantiate (concreteClass name ms) o₂ = .ok i₂)
    (hK₁ : classKeys (concreteClass name ms) o₁ = .ok K₁)
    (hK₂ : classKeys (concreteClass name ms) o₂ = .ok K₂) (hsame : ∀ k, k ∈ K₁ ↔ k ∈ K₂) :
    instEq i₁ i₂ = true ↔ ∀ k ∈ K₁, LookEqv (walk k o₁) (walk k o₂) :=
  eq_iff_restricted_same_keys h₁ h₂ hK₁ hK₂ (concrete_present hms hK₁) (concrete_present hms hK₂)
    hsame

/-- non-vacuity: all hypotheses hold for the overlap class on `oXY` / `oYX` (same relevant
    values, other key order, other irrelevant key) and the instances are equal … -/
example : ∃ i₁ i₂ K, instantiate cOverlap oXY = .ok i₁ ∧ instantiate cOverlap oYX = .ok i₂ ∧
    classKeys cOverlap oXY = .ok K ∧ classKeys cOverlap oYX = .ok K ∧
    Present oXY K ∧ Present oYX K ∧ instEq i₁ i₂ = true := by
  exact ⟨_, _, _, rfl, rfl, rfl, rfl, cOverlap_present_oXY, cOverlap_present_oYX, by decide⟩

/-- … and differ when only the nested relevant key `A.X` differs -/
example : ∃ i₁ i₂, instantiate cOverlap oXY = .ok i₁ ∧ instantiate cOverlap oX9 = .ok i₂ ∧
    instEq i₁ i₂ = false := ⟨_, _, rfl, rfl, by decide⟩

/-- prefix overlap with *different* key sets: members `Option('A')` and `Option('A.X', 7)`; from
    `{A: {X: 2}}` the class reports `{A, A.X}`, from `{A: {}}` it reports `{A}`; each set lies on or
    under the other, so `eq_iff_restricted_covering` applies (and the instances differ) -/
example : (classKeys cPre (.dict [("A", .dict [("X", .int 2)])])).toOption = some [["A"], ["A", "X"]] ∧
    (classKeys cPre (.dict [("A", .dict [])])).toOption = some [["A"]] ∧
    Covers [["A"]] [["A"], ["A", "X"]] ∧ Covers [["A"], ["A", "X"]] [["A"]] ∧
    (∃ i₁ i₂, instantiate cPre (.dict [("A", .dict [("X", .int 2)])]) = .ok i₁ ∧
      instantiate cPre (.dict [("A", .dict [])]) = .ok i₂ ∧ instEq i₁ i₂ = false) := by
  have hc₁ : Covers [["A"]] [["A"], ["A", "X"]] := by unfold Covers; decide
  have hc₂ : Covers [["A"], ["A", "X"]] [["A"]] := by unfold Covers; decide
  exact ⟨by decide, by decide, hc₁, hc₂, _, _, rfl, rfl, by decide⟩

/-- `options.get(dotted_key)` violated the equality theorem: with one member on `A.X`, options
    with `A.X = 1` and `A.X = 2` gave equal instances (both `_repr_options = {'A': {'X': None}}`),
    although the reported key `A.X` is present in both with different values — while the repaired
    fold tells them apart -/
theorem old_code_violates :
    ((instantiateOld cAX (.dict [("A", .dict [("X", .int 1)])])).toOption.map (·.reprOpts)
        = some [("A", .dict [("X", .none)])] ∧
     (instantiateOld cAX (.dict [("A", .dict [("X", .int 2)])])).toOption.map (·.reprOpts)
        = some [("A", .dict [("X", .none)])]) ∧
    (∃ i₁ i₂, instantiateOld cAX (.dict [("A", .dict [("X", .int 1)])]) = .ok i₁ ∧
      instantiateOld cAX (.dict [("A", .dict [("X", .int 2)])]) = .ok i₂ ∧ instEq i₁ i₂ = true) ∧
    (walk ["A", "X"] (.dict [("A", .dict [("X", .int 1)])]) = .found (.int 1) ∧
     walk ["A", "X"] (.dict [("A", .dict [("X", .int 2)])]) = .found (.int 2) ∧
     V.le (.int 1) (.int 2) = false) ∧
    (∃ i₁ i₂, instantiate cAX (.dict [("A", .dict [("X", .int 1)])]) = .ok i₁ ∧
      instantiate cAX (.dict [("A", .dict [("X", .int 2)])]) = .ok i₂ ∧ instEq i₁ i₂ = false) :=
  ⟨by decide, ⟨_, _, rfl, rfl, by decide⟩, by decide, ⟨_, _, rfl, rfl, by decide⟩⟩

end Labrea.DatasetClass
