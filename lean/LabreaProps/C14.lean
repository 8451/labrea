/-
  C14 — handler scoping.  Theorems over `RuntimeSM` (lean/LabreaModel/RuntimeSM.lean): histories
  are block trees of one thread, of any length and nesting; states, environments and runtime
  objects are arbitrary.  Helper lemmas live in the model file.
-/
import LabreaModel.RuntimeSM

namespace Labrea.C14
open Labrea.RuntimeSM

/-- `block_restores`.  Executing `with env x { body }` by thread `t` from ANY state `s` — whatever
    the body does (any nesting, re-entering `env x` or any other active object, raising anywhere),
    whether the block is left normally or by exception, whether or not `t` had a runtime — ends in
    a state whose current runtime of `t` is exactly the one in `s` (`none` = "no slot" is restored
    as `none`), and every saved-runtime stack of every object is as it was, so enclosing blocks
    restore correctly as well.  Remark: the body never forces the allocation of `t`'s base runtime,
    because inside the block `t`'s slot holds the entered object (`inside_block_slot_set`). -/
theorem block_restores (t : Thread) (x : Var) (body : Block) (env : Env) (s : State) :
    (execWith t x body env s).cur t = s.cur t ∧
    ∀ (r : Id) (t' : Thread), ((execWith t x body env s).objs r).entered t' = (s.objs r).entered t' :=
  ⟨execWith_cur t x body env s, execWith_entered t x body env s⟩

/-- `execWith` is the state in which the code after the block continues (or through which the
    exception propagates): the block-tree semantics passes through it in both cases. -/
theorem block_restores_in_exec (t : Thread) (x : Var) (body : Block) (env : Env) (s : State) :
    (exec t (.with_ x body .done) env s).st.cur t = s.cur t := by
  rw [exec_with_done]; exact execWith_cur t x body env s

/-- a thread that had no runtime has none after the block (the slot is removed, not set to None) -/
theorem block_restores_unset (t : Thread) (x : Var) (body : Block) (env : Env) (s : State)
    (h : s.cur t = none) : (execWith t x body env s).cur t = none := by
  rw [execWith_cur]; exact h

/-- inside a block the thread's slot is set: `current_runtime()` returns the entered object and
    allocates nothing, at any depth of the body -/
theorem inside_block_slot_set (t : Thread) (x : Var) (body : Block) (env : Env) (s : State) :
    (step s t (.enter (env x))).1.cur t = some (env x) ∧
    ((exec t body env (step s t (.enter (env x))).1).st.cur t).isSome := by
  have h : (step s t (.enter (env x))).1.cur t = some (env x) := by simp [step]
  exact ⟨h, exec_cur_isSome t body env _ (by rw [h]; rfl)⟩

/-- `refines_stack`.  The implementation state (saved runtimes scattered over the entered objects,
    one stack per object and thread) refines the specification state (ONE stack of frames per
    thread): from related states a history ends in related states, with the same variable
    bindings, the same observations and the same pending exception. -/
theorem refines_stack (t : Thread) (b : Block) (env : Env) (c0 c : State) (a : AState)
    (h : Refines c0 c a) :
    Refines c0 (exec t b env c).st (aexec t b env a).st ∧
    (aexec t b env a).obs = (exec t b env c).obs ∧
    (aexec t b env a).env = (exec t b env c).env ∧
    (aexec t b env a).raised = (exec t b env c).raised :=
  exec_refines t b env c0 c a h

/-- `served_by_top`.  From any state, the observations of a history (which handler answered each
    request, or TypeError; each probe of the current runtime) are those of the stack
    specification started with an empty stack on that state.  In the specification a request of
    type `ty` is answered by `spec_run`: the handler the innermost entered-and-not-exited runtime
    holds for `ty`, else the live default, else TypeError. -/
theorem served_by_top (t : Thread) (b : Block) (env : Env) (s : State) :
    (exec t b env s).obs = (aexec t b env (absInit s)).obs :=
  ((exec_refines t b env s s (absInit s) (refines_init s)).2.1).symm

/-- what the specification answers: with `top` the innermost runtime entered by `t` and not yet
    exited (the slot value), the handler `top` holds, else the live default, else TypeError -/
theorem spec_run (a : AState) (t : Thread) (ty : Ty) (top : Id) (h : a.cur t = some top) :
    (astep a t (.run ty)).2 = serve a.defaults (a.handlers top) ty ∧ (astep a t (.run ty)).1 = a := by
  simp [astep, acurrent, h]

/-- a thread without runtime gets a base runtime holding a snapshot of the defaults; the request is
    then answered by the live default, else TypeError -/
theorem spec_run_unset (a : AState) (t : Thread) (ty : Ty) (h : a.cur t = none) :
    (astep a t (.run ty)).2 = serve a.defaults a.defaults ty := by
  simp [astep, acurrent, h, aalloc]

/-- in the specification, entering pushes a frame and makes the entered runtime the top;
    exiting pops the frame and makes the runtime saved in it the top -/
theorem spec_enter_exit (a : AState) (t : Thread) (r : Id) :
    (astep a t (.enter r)).1.cur t = some r ∧
    (astep a t (.enter r)).1.frames t = (r, a.cur t) :: a.frames t ∧
    (astep (astep a t (.enter r)).1 t (.exit r)).1.cur t = a.cur t ∧
    (astep (astep a t (.enter r)).1 t (.exit r)).1.frames t = a.frames t := by
  simp [astep]

/-- a derived runtime holds its overrides, else the handlers of the runtime it was derived from,
    else (`Runtime.__init__`) the defaults registered when it was derived -/
theorem derived_handlers (s : State) (t : Thread) (r : Id) (hs : Table) (ty : Ty) :
    ((step s t (.derive r hs)).1.objs (t, s.next t)).handlers.lookup ty =
      (hs.lookup ty).or (((s.objs r).handlers.lookup ty).or (s.defaults.lookup ty)) := by
  simp [step, alloc_handlers, List.lookup_append]

/-- `derive_pure`.  `r.handle(hs)` creates one new object and changes nothing else: every existing
    object (the receiver included) — handlers and saved stacks —, every thread's current runtime
    and the defaults are untouched; the result is the new object. -/
theorem derive_pure (s : State) (t : Thread) (r : Id) (hs : Table) :
    (∀ r', Allocated s r' → (step s t (.derive r hs)).1.objs r' = s.objs r') ∧
    (step s t (.derive r hs)).1.cur = s.cur ∧
    (step s t (.derive r hs)).1.defaults = s.defaults ∧
    (step s t (.derive r hs)).2 = .id (t, s.next t) ∧
    ¬ Allocated s (t, s.next t) := by
  refine ⟨fun r' h => alloc_objs_of_allocated s t _ r' h, rfl, rfl, rfl, ?_⟩
  simp [Allocated]

/-- no operation at all, and hence no history, alters the handler table of an existing runtime -/
theorem handlers_never_change (t : Thread) (b : Block) (env : Env) (s : State) (r : Id)
    (h : Allocated s r) : ((exec t b env s).st.objs r).handlers = (s.objs r).handlers :=
  (exec_handlers t b env s r h).1

/-- empty world: no defaults, no objects, no thread has a runtime -/
def s0 : State := ⟨[], fun _ => ⟨[], fun _ => []⟩, fun _ => 0, fun _ => none⟩
def env0 : Env := fun _ => (99, 99)

/-- thread 0 has a base runtime (0,0), default `7 ↦ 70` registered -/
def s1 : State := (step (step s0 0 (.registerDefault 7 70)).1 0 .current).1

/-- `x0 = handle({7: 71}); with x0: with x0: run 7; raise` under try; run 7; probe` — re-entry
    of an active object, left by exception -/
def hist1 : Block :=
  .op (.handleCur 0 [(7, 71)]) <|
  .try_ (.with_ 0 (.with_ 0 (.op (.run 7) .raise) .done) .done) <|
  .op (.run 7) <| .op (.run 8) <| .op .probe .done

example : (exec 0 hist1 env0 s1).obs =
    [.bound 0 (0, 1), .served 71, .served 70, .typeError, .cur (some (0, 0))] := by decide

/-- fresh thread 5 (no runtime): enter a runtime made elsewhere, leave, slot is gone again -/
example : (execWith 5 0 (.op (.run 7) .done) (fun _ => (0, 0)) s1).cur 5 = none := by decide
example : (exec 5 (.with_ 0 (.op (.run 7) .done) (.op .probe .done)) (fun _ => (0, 0)) s1).obs =
    [.served 70, .cur none] := by decide

/-- a default registered after the runtime was created is seen (live defaults) -/
example : (exec 0 (.op (.registerDefault 8 80) (.op (.run 8) .done)) env0 s1).obs = [.served 80] := by decide

/-- the refinement hypothesis is satisfiable: every state refines its own abstraction -/
example : Refines s1 s1 (absInit s1) := refines_init s1

/-- `derive_pure` talks about existing objects: (0,0) exists in `s1` -/
example : Allocated s1 (0, 0) := by unfold Allocated; decide

def old1 : OldState := ⟨fun t => if t = 0 then .some (0, 0) else .unset, fun _ => none⟩

/-- F1: re-entering an active object: after `with r: with r: pass` the thread's slot holds `None`
    instead of the base runtime (0,0) -/
theorem old_violates_block_restores_reentry :
    (exitOld (exitOld (enterOld (enterOld old1 0 (0, 1)) 0 (0, 1)) 0 (0, 1)) 0 (0, 1)).cur 0 ≠ old1.cur 0 := by
  decide

/-- F2: a thread without runtime: after `with r: pass` the slot holds `None` instead of being absent -/
theorem old_violates_block_restores_fresh_thread :
    (exitOld (enterOld old1 5 (0, 1)) 5 (0, 1)).cur 5 ≠ old1.cur 5 := by
  decide

/-- the repaired machine restores on exactly these histories (instances of `block_restores`) -/
example : (execWith 0 0 (.with_ 0 .done .done) (fun _ => (0, 0)) s1).cur 0 = s1.cur 0 := by decide
example : (execWith 5 0 .done (fun _ => (0, 0)) s1).cur 5 = s1.cur 5 := by decide

end Labrea.C14
