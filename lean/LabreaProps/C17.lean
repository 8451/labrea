/-
  C17 — an unreliable cache backend costs recomputation, never a wrong value or failure.

  The scripted backend of the model (`CacheKind.scripted`, `Fault`) follows the Cache contract but may, at any
  call, report a miss, forget the entry, claim an entry exists (`lieExists`) and then fail to retrieve it
  (`failGet`), or fail to read back what was just stored.  The theorems quantify over ALL fault scripts (the
  script is part of the state `s`), not over the first N calls.
-/
import LabreaModel.CacheLemmas
import LabreaModel.DatasetTransparency
namespace Labrea

variable (env : Env) (run : Run) (x : Expr) (c : Nat) (o : V)

/-- whatever the script says, a successful `get` returns an entry that IS stored under the node's fingerprint:
    the backend never fabricates a value -/
theorem faulty_get_is_stored (hk : env.cacheKind c = .scripted) (s s' : St) (v : V)
    (h : backendGet env run x c o s = some (.ok v, s')) :
    ∃ (fp : V) (s1 s2 : St), fingerprintOf run x o s = some (.ok fp, s1) ∧
      entryLookup fp (s2.cacheEntries c) = some v ∧ s2.caches = s1.caches :=
  scripted_get_from_store env run x c o hk s s' v h

/-- a claimed-but-unretrievable entry (lie-exists then fail-get) falls through to recomputation -/
theorem lie_exists_then_fail_get_recomputes (s s1 s2 : St) (he : existsReq env run x c o s = some (.ok true, s1))
    (hg : getReq env run x c o s1 = some (.error cacheGetFailure, s2)) :
    cachedOp env run x c .evaluate o s = (do let v ← run .evaluate x o; setReq env run x c o v) s2 :=
  cached_get_failure_recomputes env run x c o s s1 s2 he hg

/-- a reported miss recomputes -/
theorem reported_miss_recomputes (s s1 : St) (he : existsReq env run x c o s = some (.ok false, s1)) :
    cachedOp env run x c .evaluate o s = (do let v ← run .evaluate x o; setReq env run x c o v) s1 :=
  cached_miss env run x c o s s1 he

/-- the set request returns the computed value or what the backend read back (a stored entry): failing to
    read back what was just stored costs nothing -/
theorem store_then_failed_readback_returns_value (s s' : St) (v w : V)
    (h : setReq env run x c o v s = some (.ok w, s')) :
    w = v ∨ ∃ s1 s2, backendGet env run x c o s1 = some (.ok w, s2) :=
  setReq_value env run x c o s s' v w h

/-- **faulty_backend_correct (value origin).** Every value `Cached.evaluate` returns under ANY fault script is
    either the freshly computed value of the inner expression or an entry stored under the node's fingerprint.
    (That stored entries are the right values for their fingerprints is C01's invariant.) -/
theorem faulty_value_origin (hk : env.cacheKind c = .scripted) (s s' : St) (w : V)
    (h : cachedOp env run x c .evaluate o s = some (.ok w, s')) :
    (∃ s1 s2, run .evaluate x o s1 = some (.ok w, s2)) ∨
    (∃ (fp : V) (t t1 t2 : St), fingerprintOf run x o t = some (.ok fp, t1) ∧
        entryLookup fp (t2.cacheEntries c) = some w ∧ t2.caches = t1.caches) := by
  refine (cached_value_origin env run x c o s s' w h).imp id ?_
  rintro ⟨t, t', hg⟩
  obtain ⟨fp, t1, t2, h1, h2, h3⟩ := scripted_get_from_store env run x c o hk t t' w hg
  exact ⟨fp, t, t1, t2, h1, h2, h3⟩

/-- a blind fault (`lieBlind`): the backend claims the entry exists without looking at the request — no
    fingerprint is computed, so this happens even for options under which the node's keys cannot be computed -/
theorem blind_exists_claims (hk : env.cacheKind c = .scripted) (s s1 : St) (hb : blindFault c s = some (.ok true, s1)) :
    backendExists env run x c o s =
      some (.ok true, { s1 with events := Event.cacheOp c "exists" .none "blind" :: s1.events }) := by
  simp [backendExists, hk, hb]

/-- … and the retrieval from such a backend fails with `CacheGetFailure`, which `Cached.evaluate` answers by
    recomputing (`lie_exists_then_fail_get_recomputes`) -/
theorem blind_get_fails (hk : env.cacheKind c = .scripted) (s s1 : St) (hb : blindFault c s = some (.ok true, s1)) :
    backendGet env run x c o s =
      some (.error cacheGetFailure, { s1 with events := Event.cacheOp c "get" .none "blind" :: s1.events }) := by
  simp [backendGet, hk, hb]

/-- **faulty_backend_transparent.** A node cached in an UNRELIABLE backend (scripted: at every call it may report a miss,
    claim an entry it then fails to retrieve, forget the entry, fail to store, or answer without looking at the request
    at all), whose sub-computations leave that backend's entries alone and for which equal fingerprints imply equal
    outcomes: after ANY history of evaluations and under ANY fault script — the script is part of the state, nothing is
    assumed about it — every evaluation returns the uncached outcome `den o`.  A faulty backend costs recomputation,
    never a wrong value or a failure. -/
theorem faulty_backend_transparent {env : Env} {run : Run} {x : Expr} {c : Nat} {D : V → Prop}
    {fp : V → V} {den : V → Except Err V} (H : FingerprintSoundF env run x c D fp den)
    (hist : List V) (hD : ∀ o ∈ hist, D o) (s : St) (hempty : s.cacheEntries c = [])
    (o : V) (ho : D o) (s1 : St)
    (hs : (hist.foldl (fun (st : Option St) oi => st.bind fun t =>
        (cachedOp env run x c .evaluate oi t).map Prod.snd) (some s)) = some s1)
    (r : Except Err V) (s2 : St) (h : cachedOp env run x c .evaluate o s1 = some (r, s2)) : r = den o :=
  faulty_history_transparent H hist hD s (storeInv_empty c D fp den s hempty) o ho s1 hs r s2 h

/-- … and the evaluation always terminates with that outcome (total correctness): whatever the script holds -/
theorem faulty_backend_total {env : Env} {run : Run} {x : Expr} {c : Nat} {D : V → Prop}
    {fp : V → V} {den : V → Except Err V} (H : FingerprintSoundF env run x c D fp den)
    (o : V) (ho : D o) (s : St) (hinv : StoreInv c D fp den s) :
    ∃ s', cachedOp env run x c .evaluate o s = some (den o, s') ∧ StoreInv c D fp den s' :=
  cached_evaluate_total H.hyp o ho s hinv

/-- instance: a real dataset (`@dataset def d(p = Option(key)): return body(p=p)`) over a faulty backend, every key /
    body / fuel, every history of dictionaries holding an integer under the key, every fault script -/
theorem dataset_faulty_backend_transparent {env : Env} {ovid cid : Nat} {key pname body : String} {out : Int → V}
    (H : SimpleDataset env ovid cid key pname body out) (hk : env.cacheKind cid = .scripted) (n id : Nat) (msg : String)
    (hist : List V) (hD : ∀ o ∈ hist, DsDict key o) (s : St) (hempty : s.cacheEntries cid = [])
    (o : V) (ho : DsDict key o) (s1 : St)
    (hs : (hist.foldl (fun (st : Option St) oi => st.bind fun t =>
        (cachedOp env (ev env (n + 9)) (dsInner id ovid msg) cid .evaluate oi t).map Prod.snd) (some s)) = some s1)
    (r : Except Err V) (s2 : St)
    (h : cachedOp env (ev env (n + 9)) (dsInner id ovid msg) cid .evaluate o s1 = some (r, s2)) :
    r = .ok (out (intOf key o)) :=
  faulty_backend_transparent (dataset_fingerprint_soundF H hk n id msg) hist hD s hempty o ho s1 hs r s2 h

/-- non-vacuity: an environment of that shape with a faulty backend exists (the dictionaries `{'A': i}` qualify:
    `C01Dataset.dDict`) -/
def c17dEnv : Env :=
  { β := fun f a k => .ok (.app f a k), binds := fun _ _ => .error "x",
    ov := fun _ => { dispatch := .value 20 .missing, table := [], dflt := some (dsBody "A" "n" "load") },
    ds := fun _ => default, cacheKind := fun _ => .scripted }

example : SimpleDataset c17dEnv 1 0 "A" "n" "load" (fun i => .app "load" [] [("n", .int i)]) ∧ c17dEnv.cacheKind 0 = .scripted :=
  ⟨{ subst := rfl, logOn := rfl, cacheOn := rfl, ov := rfl, β := fun _ => rfl }, rfl⟩

/-! non-vacuity: two fault scripts, kernel-evaluated -/
def c17Env : Env :=
  { β := fun f a k => .ok (.app f a k), binds := fun _ _ => .error "x", ov := fun _ => default, ds := fun _ => default,
    cacheKind := fun _ => .scripted }

/-- two blind faults (claimed existence, failed retrieval), then a faithful store: the value is computed -/
example : (match ev c17Env 20 .evaluate (.cached 2 (.option 1 "A" Option.none Option.none) 0) (.dict [("A", .int 4)])
      { scripts := [(0, [.lieBlind, .lieBlind])] } with
    | some (.ok v, s) => decide (v = .int 4) && s.scripts == [(0, [])]
    | _ => false) = true := by decide +kernel

/-- a reported miss, a faithful store, a failed read-back: the value is returned all the same -/
example : (match ev c17Env 20 .evaluate (.cached 2 (.option 1 "A" Option.none Option.none) 0) (.dict [("A", .int 4)])
      { scripts := [(0, [.miss, .behave, .failGet])] } with
    | some (.ok v, s) => decide (v = .int 4) && s.scripts == [(0, [])]
    | _ => false) = true := by decide +kernel

end Labrea
