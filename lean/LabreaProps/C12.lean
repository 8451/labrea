/-
  C12 — failures surface as EvaluationError with source and cause; never stored.

  Theorems about the interpreter model `ev` (LabreaModel/Eval.lean), for EVERY environment (user
  callables, overload tables, dataset records), expression, options dictionary, state and fuel.
-/
import LabreaModel.EvalLemmas
import LabreaModel.CacheTransparency
namespace Labrea

/-- the failure is an `EvaluationError` whose `source` is node `id` -/
def SourcedAt (id : Nat) (err : Err) : Prop :=
  ∃ f rest, err = f :: rest ∧ f.src = id ∧ err.isEvaluationError = true

/-- whatever `_evaluate_request` raises, it raises from its handler -/
theorem wrapEvaluate_sourced {α} (id : Nat) (m : M α) (s : St) (err : Err) (s' : St)
    (h : wrapEvaluate id m s = some (.error err, s')) : SourcedAt id err := by
  obtain ⟨e0, s0, -, hk⟩ := handle_eq_err h
  cases e0 with
  | nil =>
    cases hk
    exact ⟨evalFrame id, [], rfl, rfl, rfl⟩
  | cons f rest =>
    dsimp only at hk
    split at hk <;> cases hk
    · next hc =>
      simp only [Bool.and_eq_true, beq_iff_eq] at hc
      exact ⟨f, rest, rfl, hc.2, hc.1⟩
    · exact ⟨evalFrame id, f :: rest, rfl, rfl, rfl⟩

/-- **error_source.** Whatever fails inside `evaluate` of node `e` — a missing option, an unmatched
    switch or case, an exception of any class raised by user code — surfaces as an `EvaluationError`
    whose source is `e` itself (handlers that substitute a value do not fail). -/
theorem error_source (env : Env) (n : Nat) (e : Expr) (o : V) (s : St) (err : Err) (s' : St)
    (h : ev env n .evaluate e o s = some (.error err, s')) : SourcedAt e.id err := by
  cases n with
  | zero => cases h
  | succ n =>
    rw [ev_succ_run] at h
    cases hs : env.subst <;> simp only [evBody, hs] at h
    · exact wrapEvaluate_sourced _ _ _ _ _ h
    · split at h
      · cases h
      · exact wrapEvaluate_sourced _ _ _ _ _ h

/-- the `__cause__` chain ends in an original exception: a missing option, an unmatched switch / case,
    an insufficient-information error or an exception raised by user code or the runtime — never in a
    bare re-wrapping `EvaluationError` -/
def ReachesOrigin (err : Err) : Prop := ∃ f, err.getLast? = some f ∧ f.cls ≠ .evaluation

theorem reachesOrigin_pred : ErrPred ReachesOrigin where
  other c := ⟨{ cls := .other c }, rfl, by simp⟩
  cons f e h := by
    obtain ⟨g, hg, hc⟩ := h
    cases e with
    | nil => simp at hg
    | cons a as => exact ⟨g, by simpa [List.getLast?_cons_cons] using hg, hc⟩
  single f hf := ⟨f, rfl, hf⟩
  ofNil h := by obtain ⟨_, hg, _⟩ := h; simp at hg

theorem anyRel : CacheRel (fun _ _ => True) where
  refl _ := trivial
  trans _ _ := trivial
  emit _ _ _ := trivial
  setCache _ _ _ := trivial
  setScripts _ _ := trivial

/-- **cause_chain.** Every failure of every operation (`evaluate`, `validate`, `keys`, `explain`) of
    every expression carries a cause chain that leads, through the nested objects, to the original
    exception. -/
theorem cause_chain_reaches_origin (env : Env) (n : Nat) (op : Op) (e : Expr) (o : V) (s : St) (err : Err)
    (s' : St) (h : ev env n op e o s = some (.error err, s')) : ReachesOrigin err :=
  ((spec_ev anyRel reachesOrigin_pred env (Or.inr fun _ _ _ => trivial) n op e o).run s _ s' h).2 err rfl

/-- the innermost frame of a missing-option failure carries the key -/
theorem missing_key_reported (env : Env) (run : Run) (n id : Nat) (key : String) (o : V) (s : St)
    (hk : getDotted key o = .keyErr) :
    ∃ s', optionOp env run n (.option id key Option.none Option.none) id key Option.none Option.none .evaluate o s
        = some (.error [{ cls := .keyNotFound, src := id, key := key }], s') :=
  ⟨_, optionOp_absent_none env run n id key o _ .evaluate nofun s hk⟩

/-! non-vacuity: a concrete failing evaluation (`Option('A') >> f` on `{}`) -/
def c12Env : Env :=
  { β := fun _ _ _ => .error "ValueError", binds := fun _ _ => .error "x",
    ov := fun _ => default, ds := fun _ => default, cacheKind := fun _ => .memory }

def c12Witness : Option (Except Err V × St) :=
  ev c12Env 5 .evaluate (.apply 3 (.option 1 "A" Option.none Option.none) (.value 2 (.fn "f" [] []))) (.dict []) {}

example : (match c12Witness with
    | some (.error err, _) => err == [evalFrame 3, { cls := .keyNotFound, src := 1, key := "A" }]
    | _ => false) = true := by decide +kernel


/-- **failure_never_stored.** For a MemoryCache-cached node whose sub-computations leave its cache alone and for which
    equal fingerprints imply equal outcomes: when the uncached outcome under `o` is a failure, the cached evaluation
    returns exactly that failure and the cache's entries are what they were before — whatever history filled the
    store. (The next evaluation therefore recomputes, and succeeds as soon as the options allow it.) -/
theorem failure_never_stored {env : Env} {run : Run} {x : Expr} {c : Nat} {D : V → Prop} {fp : V → V}
    {den : V → Except Err V} (H : FingerprintSound env run x c D fp den) (o : V) (ho : D o) (s : St)
    (hinv : StoreInv c D fp den s) (err : Err) (hd : den o = .error err) (r : Except Err V) (s' : St)
    (h : cachedOp env run x c .evaluate o s = some (r, s')) : r = .error err ∧ s'.cacheEntries c = s.cacheEntries c :=
  cached_failure_leaves_store H o ho s hinv err hd r s' h


end Labrea
