/-
  C13 — pipelines compose associatively; step parameters come from the options and are keyed.

  All theorems are unbounded: any pipelines `p q r` (any length, any bracketing that built
  them), any step bodies, any options, any input value.  `WF` is the invariant that
  `Pipeline.__init__` establishes (`rest` is never an empty pipeline); `wf_*` show that every
  pipeline built with the constructor and `+` satisfies it.
-/
import LabreaModel.PipelineLemmas
namespace Labrea.PipelineLL.C13
open Labrea.PipelineLL Pipeline

variable {Ω α : Type}

theorem wf_constructor (t : Step Ω α) (r : Option (Pipeline Ω α)) (h : ∀ q, r = some q → q.WF) :
    (Pipeline.init t r).WF := wf_init t r h

theorem wf_plus {p : Pipeline Ω α} (hp : p.WF) (x : Operand Ω α) : (p.addOperand x).WF := by
  cases x with
  | step s => exact wf_addStep hp s
  | pipeline q => exact wf_add hp q
  | other s => exact wf_addStep hp s

theorem wf_step_plus (s : Step Ω α) (x : Operand Ω α) : (s.addOperand x).WF :=
  wf_plus (wf_init s none nofun) x

/-- `steps (p + q) = steps p ++ steps q`, by induction on the right operand (the code's own
    recursion `(self + other.rest) + other.tail`).  `steps` is what `__iter__` yields, except that
    the empty pipeline — whose `__iter__` yields its placeholder `Identity` — has no steps. -/
theorem steps_add (p : Pipeline Ω α) {q : Pipeline Ω α} (hq : q.WF) :
    (p + q).steps = p.steps ++ q.steps := by
  induction q with
  | single t =>
    rw [add_single, steps_single]
    cases ht : t.isIdentity
    · exact steps_addStep p t (.inl ht)
    · simp
  | cons t r ih =>
    obtain ⟨hre, hr⟩ := hq
    -- `r` has a step, so `p + r` is not dropped by the constructor
    have hne : (p + r).empty = false := by
      rw [← Bool.not_eq_true, ← steps_eq_nil_iff, ih hr, steps_of_not_empty hre]; simp
    rw [add_cons, steps_addStep _ t (.inr hne), ih hr, steps_cons, steps_of_not_empty hre,
      List.append_assoc]

example : ∃ p q : Pipeline Unit Nat, q.WF ∧ (p + q).steps.length = 3 :=
  ⟨.single (.opaque 1 (fun _ => some Except.ok) (fun _ => .ok []) (fun _ => .ok [])),
   .cons (.opaque 3 (fun _ => some Except.ok) (fun _ => .ok []) (fun _ => .ok []))
     (.single (.opaque 2 (fun _ => some Except.ok) (fun _ => .ok []) (fun _ => .ok []))),
   ⟨rfl, trivial⟩, rfl⟩

/-- `p + step` (first and last case of `__add__`) appends the step — unless `p` is empty and
    the step is `== Identity`, in which case the result is again the empty pipeline. -/
theorem steps_add_step (p : Pipeline Ω α) (s : Step Ω α)
    (h : s.isIdentity = false ∨ p.empty = false) : (p.addStep s).steps = p.steps ++ [s] :=
  steps_addStep p s h

example : ((new : Pipeline Unit Nat).addStep .identity).steps = [] := rfl

theorem iter_add {p q : Pipeline Ω α} (hq : q.WF) (hpe : p.empty = false) (hqe : q.empty = false) :
    (p + q).iter = p.iter ++ q.iter := by
  have h := steps_add p hq
  have hne : (p + q).empty = false := by
    rw [← Bool.not_eq_true, ← steps_eq_nil_iff, h, steps_of_not_empty hpe]; simp
  rwa [steps_of_not_empty hne, steps_of_not_empty hpe, steps_of_not_empty hqe] at h

/-- associativity, as equality of the linked lists themselves (hence of everything observable): the two
    sides have the same steps.  `steps_injective` needs no invariant, so `hp` is not used. -/
theorem add_assoc {p q r : Pipeline Ω α} (hp : p.WF) (hq : q.WF) (hr : r.WF) :
    (p + q) + r = p + (q + r) := by
  apply steps_injective
  rw [steps_add (p + q) hr, steps_add p hq, steps_add p (wf_add hq r), steps_add q hr,
    List.append_assoc]

example : ∃ p q r : Pipeline Unit Nat, p.WF ∧ q.WF ∧ r.WF ∧ ((p + q) + r).steps.length = 3 :=
  let s (n : Nat) : Step Unit Nat := .opaque n (fun _ => some Except.ok) (fun _ => .ok []) (fun _ => .ok [])
  ⟨.single (s 1), .single (s 2), .single (s 3), trivial, trivial, trivial, rfl⟩

/-- the empty pipeline is a right identity (second case of `__add__`, `other.empty`) -/
theorem add_empty_right (p : Pipeline Ω α) : p + (new : Pipeline Ω α) = p := rfl

/-- the empty pipeline is a left identity -/
theorem add_empty_left {q : Pipeline Ω α} (hq : q.WF) : (new : Pipeline Ω α) + q = q :=
  steps_injective (steps_add new hq)

/-- any empty pipeline, wherever it stands in a chain of `+`, contributes no step (`p + e` is `p` itself: `hq` is
    not used) -/
theorem add_empty_steps (p : Pipeline Ω α) {e q : Pipeline Ω α} (he : e.empty = true) (hq : q.WF) :
    ((p + e) + q).steps = (p + q).steps := by
  rw [(empty_iff e).1 he]; rfl

/-- The parameter phase of `p + q` succeeds iff both do, and the resulting function is the
    composition "`p` first, then `q`". -/
theorem evaluate_add (p q : Pipeline Ω α) (o : Ω) :
    (p + q).evaluate o =
      match p.evaluate o, q.evaluate o with
      | some f, some g => some (fun x => f x >>= g)
      | _, _ => none :=
  Pipeline.evaluate_add p q o

/-- `(p + q).transform(x, o)` in full: all parameters of both operands are evaluated first (a
    failure is an `EvaluationError`), then `q.transform(p.transform(x, o), o)`. -/
theorem transform_add (p q : Pipeline Ω α) (x : α) (o : Ω) :
    (p + q).transform x o =
      match q.evaluate o with
      | none => .error .evaluation
      | some _ => p.transform x o >>= fun y => q.transform y o := by
  unfold transform
  rw [Pipeline.evaluate_add]
  cases p.evaluate o <;> cases q.evaluate o <;> rfl

/-- … hence whenever the parameters of `q` can be evaluated under `o`:
    `(p + q).transform(x, o) = q.transform(p.transform(x, o), o)` including which exception escapes -/
theorem transform_add_of_evaluable (p q : Pipeline Ω α) (x : α) (o : Ω)
    (hq : (q.evaluate o).isSome) :
    (p + q).transform x o = p.transform x o >>= fun y => q.transform y o := by
  rw [transform_add]
  cases h : q.evaluate o with
  | none => simp [h] at hq
  | some g => rfl

/-- … and unconditionally on results: `(p + q).transform(x, o)` returns `v` iff
    `q.transform(p.transform(x, o), o)` returns `v`. -/
theorem transform_add_ok (p q : Pipeline Ω α) (x : α) (o : Ω) (v : α) :
    (p + q).transform x o = .ok v ↔ ∃ y, p.transform x o = .ok y ∧ q.transform y o = .ok v := by
  rw [transform_add]
  cases hq : q.evaluate o with
  | none => simp [transform, hq]
  | some g => exact bind_eq_ok

example : ∃ (p q : Pipeline Unit Nat) (x v : Nat), (p + q).transform x () = .ok v :=
  ⟨.single (.opaque 1 (fun _ => some (fun n => .ok (n + 1))) (fun _ => .ok []) (fun _ => .ok [])),
   .single (.opaque 2 (fun _ => some (fun n => .ok (n * 2))) (fun _ => .ok []) (fun _ => .ok [])),
   3, 8, rfl⟩

/-- associativity as equality of `transform` behaviour, without any well-formedness assumption -/
theorem add_assoc_transform (p q r : Pipeline Ω α) (x : α) (o : Ω) :
    ((p + q) + r).transform x o = (p + (q + r)).transform x o := by
  simp only [transform, Pipeline.evaluate_add, seqFn_assoc]

/-- identity as equality of `transform` behaviour -/
theorem add_empty_transform (p e : Pipeline Ω α) (he : e.empty = true) (x : α) (o : Ω) :
    (p + e).transform x o = p.transform x o ∧ (e + p).transform x o = p.transform x o := by
  simp only [transform, Pipeline.evaluate_add, evaluate_of_empty he, seqFn_ok_left, seqFn_ok_right,
    and_self]

/-- The function of a pipeline is the composition of the steps that `__iter__` yields, in the
    order it yields them. -/
theorem iter_order (p : Pipeline Ω α) (o : Ω) : p.evaluate o = composeSteps p.iter o := by
  induction p with
  | single t => rw [evaluate_single]; exact (seqFn_ok_right _).symm
  | cons t r ih => rw [evaluate_cons, ih, iter, composeSteps_snoc]

/-- the same with the placeholder of the empty pipeline removed -/
theorem steps_order (p : Pipeline Ω α) (o : Ω) : p.evaluate o = composeSteps p.steps o := by
  cases h : p.empty
  · rw [steps_of_not_empty h, iter_order]
  · rw [steps_of_empty h, evaluate_of_empty h]; rfl

example : (composeSteps
    [(.opaque 1 (fun _ => some (fun n => .ok (n + 1))) (fun _ => .ok []) (fun _ => .ok []) : Step Unit Nat),
     .opaque 2 (fun _ => some (fun n => .ok (n * 2))) (fun _ => .ok []) (fun _ => .ok [])] ()).map
      (fun f => f 3) = some (.ok 8) := rfl

/-- `(e >> p)(o)` is `p.transform(e(o), o)` evaluated inside one request: a failure of `e`, of a
    parameter of `p` or of a step body comes out as `EvaluationError`. -/
theorem apply_pipeline (e : Source Ω α) (p : Pipeline Ω α) (o : Ω) :
    applyEval e p o =
      wrapEval (match e.eval o with
        | none => .error .evaluation
        | some v => p.transform v o) := by
  unfold applyEval transform
  cases e.eval o <;> cases p.evaluate o <;> rfl

/-- on results: `(e >> p)(o)` returns `r` iff `e(o)` returns some `v` and `p.transform(v, o)` returns `r` -/
theorem apply_pipeline_ok (e : Source Ω α) (p : Pipeline Ω α) (o : Ω) (r : α) :
    applyEval e p o = .ok r ↔ ∃ v, e.eval o = some v ∧ p.transform v o = .ok r := by
  rw [apply_pipeline, wrapEval_eq_ok]
  cases e.eval o <;> simp

example : ∃ (e : Source Unit Nat) (p : Pipeline Unit Nat) (r : Nat), applyEval e p () = .ok r :=
  ⟨Param.const 3,
   .single (.opaque 1 (fun _ => some (fun n => .ok (n + 1))) (fun _ => .ok []) (fun _ => .ok [])),
   4, rfl⟩

/-- the keys of `e >> p` are those of `e` and those of `p` -/
theorem apply_keys (e : Source Ω α) (p : Pipeline Ω α) (o : Ω) :
    applyKeys e p o = seqUnion [e.keys o, p.keys o] :=
  (seqUnion_pair _ _).symm

/-- `keys()` of a pipeline is the union of the `keys()` of the steps it iterates over (computed
    tail first; the first failing step's exception escapes). -/
theorem pipeline_keys (p : Pipeline Ω α) (o : Ω) :
    p.keys o = seqUnion (p.iter.reverse.map (fun s => s.keys o)) :=
  keys_eq_seqUnion p o

theorem pipeline_explain (p : Pipeline Ω α) (o : Ω) :
    p.explain o = seqUnion (p.iter.reverse.map (fun s => s.explain o)) :=
  explain_eq_seqUnion p o

theorem pipeline_keys_mem (p : Pipeline Ω α) (o : Ω) {ks : Keys} (h : p.keys o = .ok ks) (k : String) :
    k ∈ ks ↔ ∃ s ∈ p.iter, ∃ ks', s.keys o = .ok ks' ∧ k ∈ ks' :=
  (keyFold_keys o).mem h k

theorem pipeline_explain_mem (p : Pipeline Ω α) (o : Ω) {ks : Keys} (h : p.explain o = .ok ks)
    (k : String) : k ∈ ks ↔ ∃ s ∈ p.iter, ∃ ks', s.explain o = .ok ks' ∧ k ∈ ks' :=
  (keyFold_explain o).mem h k

theorem pipeline_keys_ok (p : Pipeline Ω α) (o : Ω) :
    (∃ ks, p.keys o = .ok ks) ↔ ∀ s ∈ p.iter, ∃ ks', s.keys o = .ok ks' :=
  (keyFold_keys o).ok_iff p

theorem pipeline_explain_ok (p : Pipeline Ω α) (o : Ω) :
    (∃ ks, p.explain o = .ok ks) ↔ ∀ s ∈ p.iter, ∃ ks', s.explain o = .ok ks' :=
  (keyFold_explain o).ok_iff p

example : ∃ (p : Pipeline Unit Nat) (ks : Keys), p.keys () = .ok ks ∧ "A" ∈ ks ∧ "B" ∈ ks :=
  ⟨.cons (.partialApp 2 (fun _ _ => .ok 0) [] [("k", ⟨fun _ => some 1, fun _ => .ok ["B"], fun _ => .ok ["B"]⟩)])
     (.single (.partialApp 1 (fun _ _ => .ok 0) [] [("k", ⟨fun _ => some 1, fun _ => .ok ["A"], fun _ => .ok ["A"]⟩)])),
   ["B", "A"], rfl, by simp, by simp⟩

-- `KeyFold.add` holds for any operands: the hypotheses on `p` and `q` in the next four are not used

/-- `keys()` of a sum succeeds exactly when it succeeds for both operands (non-empty operands,
    any lengths, any bracketing that built them). -/
theorem keys_add_ok {p q : Pipeline Ω α} (hq : q.WF) (hpe : p.empty = false) (hqe : q.empty = false)
    (o : Ω) :
    (∃ ks, (p + q).keys o = .ok ks) ↔ (∃ kp, p.keys o = .ok kp) ∧ (∃ kq, q.keys o = .ok kq) :=
  (keyFold_keys o).add_ok p q

/-- as sets, the keys of `p + q` are the union of the keys of `p` and of `q`: composing pipelines
    neither drops a key an operand reports nor invents one. -/
theorem keys_add_mem {p q : Pipeline Ω α} (hq : q.WF) (hpe : p.empty = false) (hqe : q.empty = false)
    (o : Ω) {ks kp kq : Keys} (h : (p + q).keys o = .ok ks) (h1 : p.keys o = .ok kp)
    (h2 : q.keys o = .ok kq) (k : String) : k ∈ ks ↔ k ∈ kp ∨ k ∈ kq :=
  (keyFold_keys o).add_mem h h1 h2 k

/-- `explain()` of a sum succeeds exactly when it succeeds for both operands -/
theorem explain_add_ok {p q : Pipeline Ω α} (hq : q.WF) (hpe : p.empty = false)
    (hqe : q.empty = false) (o : Ω) :
    (∃ ks, (p + q).explain o = .ok ks) ↔
      (∃ kp, p.explain o = .ok kp) ∧ (∃ kq, q.explain o = .ok kq) :=
  (keyFold_explain o).add_ok p q

/-- the same for `explain()` -/
theorem explain_add_mem {p q : Pipeline Ω α} (hq : q.WF) (hpe : p.empty = false)
    (hqe : q.empty = false) (o : Ω) {ks kp kq : Keys} (h : (p + q).explain o = .ok ks)
    (h1 : p.explain o = .ok kp) (h2 : q.explain o = .ok kq) (k : String) :
    k ∈ ks ↔ k ∈ kp ∨ k ∈ kq :=
  (keyFold_explain o).add_mem h h1 h2 k

/-- `step_partial`: a step `PipelineStep(PartialApplication(prim, *pos, **kw))` — what
    `@pipeline_step` and the helpers of `labrea.functions` build — evaluates every parameter
    under the options given at evaluation time and computes
    `prim(*evaluated_pos, x, **evaluated_kw)`; a parameter that cannot be evaluated makes the
    whole evaluation fail; its keys (explain) are the union of its parameters' keys (explain). -/
theorem step_partial (tag : Nat) (prim : List α → List (String × α) → Except Err α)
    (pos : List (Param Ω α)) (kw : List (String × Param Ω α)) (x : α) (o : Ω) :
    (Step.partialApp tag prim pos kw).transform x o =
        (match evalPos o pos, evalKw o kw with
         | some ps, some ks => prim (ps ++ [x]) ks
         | _, _ => .error .evaluation)
    ∧ (Step.partialApp tag prim pos kw).keys o =
        seqUnion (pos.map (fun p => p.keys o) ++ kw.map (fun p => p.2.keys o))
    ∧ (Step.partialApp tag prim pos kw).explain o =
        seqUnion (pos.map (fun p => p.explain o) ++ kw.map (fun p => p.2.explain o)) := by
  refine ⟨?_, rfl, rfl⟩
  simp only [Step.transform, Step.evaluate]
  cases evalPos o pos <;> cases evalKw o kw <;> rfl

/-- the keyword parameters are evaluated one by one from the *same* options, and bound by name -/
theorem evalKw_spec (o : Ω) (kw : List (String × Param Ω α)) (ks : List (String × α)) :
    evalKw o kw = some ks ↔
      ks.map Prod.fst = kw.map Prod.fst ∧
      ∀ i (h : i < kw.length) (h' : i < ks.length), (kw[i]).2.eval o = some (ks[i]).2 := by
  induction kw generalizing ks with
  | nil => cases ks <;> simp [evalKw]
  | cons kp kw ih =>
    obtain ⟨k, p⟩ := kp
    cases ks with
    | nil => simp [evalKw, Option.bind_eq_some_iff]
    | cons kv ks =>
      obtain ⟨k', v⟩ := kv
      rw [forall_getElem_cons (fun (kp : String × Param Ω α) (kv : String × α) => kp.2.eval o = some kv.2)]
      simp only [evalKw, Option.bind_eq_bind, Option.bind_eq_some_iff, Option.pure_def, Option.some.injEq,
        List.cons.injEq, Prod.mk.injEq, List.map_cons, ih]
      constructor
      · rintro ⟨_, hv, _, ⟨h1, h2⟩, ⟨rfl, rfl⟩, rfl⟩; exact ⟨⟨rfl, h1⟩, hv, h2⟩
      · rintro ⟨⟨rfl, h1⟩, hv, h2⟩; exact ⟨v, hv, ks, ⟨h1, h2⟩, ⟨rfl, rfl⟩, rfl⟩

example : ∃ (s : Step (List (String × Nat)) Nat) (o : List (String × Nat)) (ks : Keys),
    s.transform 10 o = .ok 7 ∧ s.keys o = .ok ks ∧ "AMOUNT" ∈ ks :=
  -- `@pipeline_step def sub(x, y=Option('AMOUNT')): return x - y` under {'AMOUNT': 3}
  ⟨.partialApp 1
      (fun pos kw => match pos, kw with
        | [x], [("y", y)] => .ok (x - y)
        | _, _ => .error (.raised "TypeError"))
      [] [("y", ⟨fun o => o.lookup "AMOUNT", fun _ => .ok ["AMOUNT"], fun _ => .ok ["AMOUNT"]⟩)],
   [("AMOUNT", 3)], ["AMOUNT"], rfl, rfl, by simp⟩

section examples
/-- `@pipeline_step def s(x, k=Option(key)): return x + k` on `Nat` with options as an association list -/
def exStep (tag : Nat) (key : String) : Step (List (String × Nat)) Nat :=
  .partialApp tag
    (fun pos kw => match pos, kw with
      | [x], [(_, k)] => .ok (x + k)
      | _, _ => .error (.raised "TypeError"))
    [] [("k", ⟨fun o => o.lookup key, fun o => if (o.lookup key).isSome then .ok [key] else .error .keyNotFound,
              fun _ => .ok [key]⟩)]

def exP : Pipeline (List (String × Nat)) Nat := .single (exStep 1 "A")
def exQ : Pipeline (List (String × Nat)) Nat := .cons (exStep 3 "C") (.single (exStep 2 "B"))
def exO : List (String × Nat) := [("A", 1), ("B", 10), ("C", 100)]

-- hypotheses of steps_add / iter_add / add_assoc / add_empty_left / add_empty_steps
example : exP.WF ∧ exQ.WF ∧ exP.empty = false ∧ exQ.empty = false := ⟨trivial, ⟨rfl, trivial⟩, rfl, rfl⟩
example : ((exP + exQ).iter.map Step.tag?) = [some 1, some 2, some 3] := rfl
example : (((exP + exQ) + exP).iter.map Step.tag?) = ((exP + (exQ + exP)).iter.map Step.tag?) := rfl
example : (((new : Pipeline (List (String × Nat)) Nat) + exQ).iter.map Step.tag?) = [some 2, some 3] := rfl
example : (new : Pipeline (List (String × Nat)) Nat).empty = true := rfl
-- hypothesis of transform_add_of_evaluable, and both sides of transform_add_ok
example : (exQ.evaluate exO).isSome = true := rfl
example : (exP + exQ).transform 5 exO = .ok 116 := rfl
example : exP.transform 5 exO = .ok 6 ∧ exQ.transform 6 exO = .ok 116 := ⟨rfl, rfl⟩
-- a parameter that cannot be evaluated: the whole evaluation fails, whatever the bracketing
example : (exP + exQ).transform 5 [("A", 1), ("C", 100)] = .error .evaluation := rfl
-- `keys()` / `explain()` of a concrete sum: success, and the failure of one step
example : (exP + exQ).keys exO = .ok ["C", "B", "A"] := rfl
example : (exP + exQ).explain [] = .ok ["C", "B", "A"] := rfl
example : (exP + exQ).keys [("A", 1)] = .error .keyNotFound := rfl
-- the hypotheses of `keys_add_mem` / `keys_add_ok` are met by concrete non-empty operands
example : ∀ k, k ∈ ["C", "B", "A"] ↔ k ∈ ["A"] ∨ k ∈ ["C", "B"] :=
  keys_add_mem (p := exP) (q := exQ) ⟨rfl, trivial⟩ rfl rfl exO (ks := ["C", "B", "A"]) (kp := ["A"])
    (kq := ["C", "B"]) rfl rfl rfl
example : ¬ ∃ ks, (exP + exQ).keys [("A", 1)] = .ok ks := by
  rw [keys_add_ok (p := exP) (q := exQ) ⟨rfl, trivial⟩ rfl rfl]
  rintro ⟨_, ⟨kq, h⟩⟩; cases h
example : applyEval (Param.const 5) (exP + exQ) exO = .ok 116 := rfl
example : applyEval ⟨fun _ => none, fun _ => .error .keyNotFound, fun _ => .ok ["S"]⟩ (exP + exQ) exO
    = .error .evaluation := rfl
end examples

end Labrea.PipelineLL.C13
