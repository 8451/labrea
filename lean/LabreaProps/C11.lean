/-
  C11 — explain() covers keys() and names every missing option.

  FULL STATEMENT (kept visible): whenever explain(o) succeeds it contains keys(o); the listed keys absent from o
  are exactly the options still to be supplied; explain fails only with an insufficient-information error.
  Decided on all generated graphs by the implementation oracle (every sub-dictionary chain).  Proved here
  (`…_partial`): the leaf and selector cases for every key, default, options and interpretation of the
  children.
-/
import LabreaProps.C05
namespace Labrea

variable (env : Env) (run : Run) (n id : Nat) (key : String) (o : V)

/-- an absent Option without default and domain: explain lists exactly its key, and validate fails naming it -/
theorem explain_lists_missing_partial (self : Expr) (s : St) (hk : getDotted key o = .keyErr) :
    (∃ s1, optionOp env run n self id key Option.none Option.none .explain o s = some (.ok (keySet [key]), s1)) ∧
    (∃ s2, optionOp env run n self id key Option.none Option.none .validate o s = some (.error [keyNotFound id key], s2)) :=
  ⟨⟨{ s with events := .read key :: s.events }, by simp [optionOp, existsKey_keyErr hk, keySet, unionV_nil_right]⟩,
    ⟨_, optionOp_absent_none env run n id key o self .validate nofun s hk⟩⟩

/-- a present Option without domain whose value holds no templated string: `keys` and `explain` both yield exactly its
    own key, from the same final state (in general both are own key ∪ domain ∪ templated strings, one with the
    children's `keys`, the other with their `explain`: see `optionOp`) -/
theorem explain_keys_same_shape_partial (self : Expr) (dflt dom : Option Expr) (raw : V) (s : St)
    (hk : getDotted key o = .found raw) (hplain : templatedStrings raw = []) (hd : dom = Option.none) :
    ∃ s1, optionOp env run n self id key dflt dom .keys o s = some (.ok (keySet [key]), s1) ∧
      optionOp env run n self id key dflt dom .explain o s = some (.ok (keySet [key]), s1) :=
  have h := fun op hop => optionOp_keys_present_plain env run n id key o self dflt op hop raw s hk hplain
  hd ▸ ⟨_, h _ (.inl rfl), h _ (.inr rfl)⟩

/-- when a switch cannot choose its branch (dispatch not evaluable, no default), explain fails with an
    insufficient-information error whose source is the switch — and with nothing else -/
theorem explain_switch_insufficient (d : Expr) (lookup : List (V × Expr)) (s s1 : St) (err : Err)
    (hd : run .evaluate d o s = some (.error err, s1)) (he : err.isEvaluationError = true) :
    switchOp run id d lookup Option.none .explain o s = some (.error ({ cls := .insufficient, src := id } :: err), s1) :=
  switchOp_explain_of_failed run o (switchLookup_dispatch_fails run o hd he) he

/-- with a default, an unevaluable dispatch is not an obstacle: explain explains the default -/
theorem explain_switch_default (d df : Expr) (lookup : List (V × Expr)) (s s1 : St) (err : Err)
    (hd : run .evaluate d o s = some (.error err, s1)) (he : err.isEvaluationError = true) :
    switchOp run id d lookup (some df) .explain o s = run .explain df o s1 :=
  switchOp_of_chosen run o (switchLookup_dispatch_fails run o hd he) _

/-- explain of an application is the union of the explanations of its parts -/
theorem explain_apply_structural (i : Nat) (x f : Expr) :
    nodeOp env run n .explain (.apply i x f) o = (do let a ← run .explain x o; let b ← run .explain f o; pure (unionV a b)) :=
  rfl

/-! non-vacuity / iterative use: fill what explain lists until validate passes (kernel-evaluated) -/
def c11Env : Env :=
  { β := fun f a k => .ok (.app f a k), binds := fun _ _ => .error "x", ov := fun _ => default, ds := fun _ => default,
    cacheKind := fun _ => .memory }

def c11Expr : Expr :=
  .switch 5 (.option 1 "K" Option.none Option.none) [(.str "x", .option 2 "A" Option.none Option.none)] (some (.option 3 "B" Option.none Option.none))

def explainOf (o : V) : Option V := match ev c11Env 20 .explain c11Expr o {} with | some (.ok v, _) => some v | _ => Option.none

example : explainOf (.dict []) = some (.set [.str "B"]) := by decide +kernel
example : explainOf (.dict [("K", .str "x")]) = some (.set [.str "A", .str "K"]) := by decide +kernel
example : explainOf (.dict [("K", .str "x"), ("A", .int 1)]) = some (.set [.str "A", .str "K"]) := by decide +kernel

/-! ### the full statement is false on the current tree: known finding F27 (kernel-evaluated)

  `Map(switch(Option('K'), {'z': Option('Q'), 'x': case('x').when(never, None)}, 1), {'K': ['z', 'x']})` on `{}`:
  the second element's explain fails (no case matches, no default), `Map.explain` falls back to the mapped
  expression's explain under the caller's options (the default branch): it lists nothing, although validate fails
  for the missing `Q` of the first element. -/
def f27Env : Env := { c11Env with β := fun _ _ _ => .ok (.bool false) }    -- the predicate `never` is false

def f27Expr : Expr :=
  .map 9
    (.switch 6 (.option 1 "K" Option.none Option.none)
      [(.str "z", .option 2 "Q" Option.none Option.none),
       (.str "x", .caseWhen 5 (.value 3 (.str "x")) [(.value 4 (.fn "never" [] []), .value 7 .none)] Option.none)]
      (some (.value 8 (.int 1))))
    [("K", .value 10 (.list [.str "z", .str "x"]))]

theorem explain_lists_nothing_validate_fails_F27 :
    (match ev f27Env 40 .explain f27Expr (.dict []) {} with | some (.ok v, _) => decide (v = .set []) | _ => false) = true ∧
    (match ev f27Env 40 .validate f27Expr (.dict []) {} with
      | some (.error (f :: _), _) => decide (f.cls = .keyNotFound) && decide (f.key = "Q")
      | _ => false) = true := by
  constructor <;> decide +kernel

end Labrea
