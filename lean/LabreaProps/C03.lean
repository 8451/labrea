/-
  C03 — keys() is sufficient and present-only; fingerprints depend on nothing else.

  This file proves the second half for every expression: the fingerprint is a function of the reported
  keys and the values stored under them, equal for dictionaries that agree on them and different as soon
  as one of those values differs, and every key it is built from is present.  The first half
  (sufficiency: re-evaluation on the restricted dictionary) is decided on the implementation by the
  restrict-and-re-evaluate oracle; it is FALSE in general on the current tree (known findings F9, F18,
  F19, F22 — witnesses in /verif/corpus and below).
-/
import LabreaModel.MonadLemmas
import LabreaModel.KeysLemmas
namespace Labrea

/-- `[{k: get_dotted_key(k, o)} for k in ks]`, `none` when some key is not present -/
def fpPure (o : V) : List String → Option (List V)
  | [] => some []
  | k :: ks =>
    match getDotted k o, fpPure o ks with
    | .found v, some rest => some (V.dict [(k, v)] :: rest)
    | _, _ => Option.none

theorem fpPure_cons {o : V} {k : String} {ks : List String} {a : List V} :
    fpPure o (k :: ks) = some a ↔ ∃ v rest, getDotted k o = .found v ∧ fpPure o ks = some rest ∧ a = .dict [(k, v)] :: rest := by
  simp only [fpPure]
  split <;> simp_all [eq_comm]

theorem fpItems_eq_ok (o : V) : ∀ (ks : List String) (s : St) (items : List V) (s' : St),
    fpItems o ks s = some (.ok items, s') ↔
      fpPure o ks = some items ∧ s' = { s with events := (ks.map Event.read).reverse ++ s.events }
  | [], s, items, s' => by
    simp only [fpItems, fpPure, pure_run]
    constructor
    · rintro h; cases h; exact ⟨rfl, rfl⟩
    · rintro ⟨h, rfl⟩; cases h; rfl
  | k :: ks, s, items, s' => by
    simp only [fpItems, bind_eq_ok, getKey_eq_ok, fpItems_eq_ok o ks, pure_run, fpPure_cons]
    constructor
    · rintro ⟨v, _, ⟨hg, rfl⟩, rest, _, ⟨hr, rfl⟩, h⟩
      cases h
      exact ⟨⟨v, rest, hg, hr, rfl⟩, by simp⟩
    · rintro ⟨⟨v, rest, hg, hr, rfl⟩, rfl⟩
      exact ⟨v, _, ⟨hg, rfl⟩, rest, _, ⟨hr, rfl⟩, by simp⟩

/-- what `Cacheable.fingerprint` computes after `keys()`: exactly `fpPure` (plus read events) -/
theorem fpItems_eq_fpPure (o : V) : ∀ (ks : List String) (s : St) (items : List V) (s' : St),
    fpItems o ks s = some (.ok items, s') → fpPure o ks = some items :=
  fun ks s items s' h => ((fpItems_eq_ok o ks s items s').mp h).1

/-- **keys_present (fingerprint form).** A fingerprint exists only if every key it is built from is present. -/
theorem fpPure_present (o : V) : ∀ (ks : List String) (items : List V), fpPure o ks = some items →
    ∀ k ∈ ks, ∃ v, getDotted k o = .found v
  | [], _, _, k, hk => by simp at hk
  | k0 :: ks, items, h, k, hk => by
    obtain ⟨v, rest, hg, hr, -⟩ := fpPure_cons.mp h
    rcases List.mem_cons.mp hk with rfl | hk'
    · exact ⟨v, hg⟩
    · exact fpPure_present o ks rest hr k hk'

/-- **fp_function.** Dictionaries that agree on the reported keys have the same fingerprint, whatever else
    they contain. -/
theorem fingerprint_agree (o o' : V) : ∀ (ks : List String), (∀ k ∈ ks, getDotted k o' = getDotted k o) →
    fpPure o' ks = fpPure o ks
  | [], _ => rfl
  | k :: ks, h => by
    simp only [fpPure, h k (by simp), fingerprint_agree o o' ks (fun k' hk' => h k' (by simp [hk']))]

/-- **fp_injective.** Equal fingerprints over the same reported keys force equal values under every one of
    them: the fingerprint differs whenever the value under a reported key differs. -/
theorem fingerprint_injective (o o' : V) : ∀ (ks : List String) (a : List V), fpPure o ks = some a → fpPure o' ks = some a →
    ∀ k ∈ ks, getDotted k o' = getDotted k o
  | [], _, _, _, k, hk => by simp at hk
  | k0 :: ks, a, h, h', k, hk => by
    obtain ⟨v, rest, hg, hr, rfl⟩ := fpPure_cons.mp h
    obtain ⟨v', rest', hg', hr', he⟩ := fpPure_cons.mp h'
    simp only [List.cons.injEq, V.dict.injEq, Prod.mk.injEq, true_and, and_true] at he
    obtain ⟨rfl, rfl⟩ := he
    rcases List.mem_cons.mp hk with rfl | hk'
    · exact hg'.trans hg.symm
    · exact fingerprint_injective o o' ks _ hr hr' k hk'

/-- the whole fingerprint of a node: `keys`, sorted, then `fpPure` — nothing else of the options enters -/
theorem fingerprintOf_spec (run : Run) (x : Expr) (o : V) (s s' : St) (fp : V)
    (h : fingerprintOf run x o s = some (.ok fp, s')) :
    ∃ ks s1 items, run .keys x o s = some (.ok ks, s1) ∧ fpPure o (sortStrings (keyStrings ks)) = some items ∧
      fp = .list items := by
  simp only [fingerprintOf, bind_eq_ok, fpItems_eq_ok, pure_run] at h
  obtain ⟨ks, s1, hk, items, _, ⟨hi, -⟩, h⟩ := h
  cases h
  exact ⟨ks, s1, items, hk, hi, rfl⟩

/-- sorting makes the fingerprint independent of the order in which `keys()` enumerates its set:
    `insertSorted` keeps a sorted list sorted -/
theorem insertSorted_mem (a : String) : ∀ (l : List String) (x : String), x ∈ insertSorted a l ↔ x = a ∨ x ∈ l
  | [], x => by simp [insertSorted]
  | b :: bs, x => by
    simp only [insertSorted]
    split
    · simp
    · simp only [List.mem_cons, insertSorted_mem a bs x]
      exact or_left_comm

theorem sortStrings_mem (l : List String) (x : String) : x ∈ sortStrings l ↔ x ∈ l := by
  induction l with
  | nil => simp [sortStrings]
  | cons a as ih =>
    simp only [sortStrings, List.foldr_cons] at ih ⊢
    rw [insertSorted_mem]; simp [ih]

/-! ### the first half is false on the current tree: a witness (known finding F18), kernel-evaluated -/

def c03Env : Env :=
  { β := fun f a _ => if f = "neg" then (match a with | [.int i] => .ok (.int (-i)) | _ => .error "TypeError") else .error "TypeError",
    binds := fun _ _ => .error "x", ov := fun _ => default, ds := fun _ => default, cacheKind := fun _ => .memory }

/-- `coalesce(switch('D', {1: Option('Q')}, Option('B') >> neg), Option('B'))` -/
def f18Expr : Expr :=
  .coalesce 9 [ .switch 5 (.option 1 "D" Option.none Option.none) [(.int 1, .option 2 "Q" Option.none Option.none)]
                  (some (.apply 4 (.option 3 "B" Option.none Option.none) (.value 6 (.fn "neg" [] [])))),
                .option 7 "B" Option.none Option.none ]

def outcome (op : Op) (e : Expr) (o : V) : Option (Except Err V) := (ev c03Env 30 op e o {}).map Prod.fst

/-- equal `keys()` (hence equal fingerprints: both dictionaries agree on `B`), different values -/
theorem keys_not_sufficient_F18 :
    (match outcome .keys f18Expr (.dict [("B", .int 5)]), outcome .keys f18Expr (.dict [("D", .int 1), ("B", .int 5)]) with
      | some (.ok a), some (.ok b) => decide (a = b) && decide (a = .set [.str "B"])
      | _, _ => false) = true ∧
    (match outcome .evaluate f18Expr (.dict [("B", .int 5)]), outcome .evaluate f18Expr (.dict [("D", .int 1), ("B", .int 5)]) with
      | some (.ok a), some (.ok b) => decide (a = .int (-5)) && decide (b = .int 5)
      | _, _ => false) = true := by
  constructor <;> decide +kernel

/-- **keys_present_only.** For every expression (all 23 node kinds, any nesting, datasets with overloads, pre-set and
    default options, Map, templates, caches in any state and of any kind), every option dictionary and every
    environment: each key `keys(o)` reports is a string naming an option that IS PRESENT in the caller's dictionary
    `o` — also below `with_options` / dataset `options=` / `default_options=` wrappers and `Map` assignments, where
    the inner expression is inspected under *merged* options: keys the wrapper provides are dropped, what remains
    was found in the caller's own options (`walk_mix_found`).  The one exception is `AllOptions`, which reports
    the dictionary's top-level names whatever they are (`allOptions_keys_top_level`): the hypothesis excludes
    runs that consulted one. -/
theorem keys_present_only (env : Env) (n : Nat) (e : Expr) (o : V) (s s' : St) (ks : V)
    (h : ev env n .keys e o s = some (.ok ks, s'))
    (hq : ∀ evt ∈ s'.events, evt.isReadAll = false) :
    ∀ k ∈ ks.setElems, ∃ key w, k = V.str key ∧ getDotted key o = Lk.found w :=
  (tri_ev env n .keys e o).post s ks s' h hq rfl

/-- consequently the fingerprint of the node can be computed: every reported key has a value -/
theorem reported_keys_have_values (env : Env) (n : Nat) (e : Expr) (o : V) (s s' : St) (ks : V)
    (h : ev env n .keys e o s = some (.ok ks, s')) (hq : ∀ evt ∈ s'.events, evt.isReadAll = false) :
    ∀ key ∈ keyStrings ks, ∃ w, getDotted key o = Lk.found w := by
  intro key hkey
  simp only [keyStrings, List.mem_filterMap] at hkey
  obtain ⟨k, hk, hs⟩ := hkey
  obtain ⟨key', w, rfl, hw⟩ := keys_present_only env n e o s s' ks h hq k hk
  simp only [Option.some.injEq] at hs
  exact ⟨w, hs ▸ hw⟩

theorem fpPure_total (o : V) : ∀ (ks : List String), (∀ k ∈ ks, ∃ w, getDotted k o = Lk.found w) → ∃ items, fpPure o ks = some items
  | [], _ => ⟨[], rfl⟩
  | k :: ks, h => by
    obtain ⟨w, hw⟩ := h k (by simp)
    obtain ⟨items, hr⟩ := fpPure_total o ks fun k' hk' => h k' (by simp [hk'])
    exact ⟨_, fpPure_cons.mpr ⟨w, items, hw, hr, rfl⟩⟩

/-- **fingerprint_defined.** Whenever `keys(o)` of an expression succeeds (and no `AllOptions` was consulted), the
    cache key built from it — `[{k: get_dotted_key(k, o)} for k in sorted(keys)]` — can be computed: no reported key
    is missing from `o`, from any state. -/
theorem fingerprint_defined (env : Env) (n : Nat) (e : Expr) (o : V) (s s' : St) (ks : V)
    (h : ev env n .keys e o s = some (.ok ks, s')) (hq : ∀ evt ∈ s'.events, evt.isReadAll = false) (t : St) :
    ∃ items t', fpItems o (sortStrings (keyStrings ks)) t = some (.ok items, t') :=
  (fpPure_total o _ fun k hk => reported_keys_have_values env n e o s s' ks h hq k ((sortStrings_mem _ _).mp hk)).imp
    fun _ hi => ⟨_, (fpItems_eq_ok ..).mpr ⟨hi, rfl⟩⟩

/-- `AllOptions.keys(o)` is the set of top-level names of `o` -/
theorem allOptions_keys_top_level (env : Env) (run : Run) (n id : Nat) (kvs : List (String × V)) (s : St) :
    nodeOp env run n .keys (.allOptions id) (.dict kvs) s =
      some (.ok (keySet (akeys kvs)), { s with events := Event.readAll :: s.events }) := by
  simp [nodeOp]

/-- non-vacuity: a key read below pre-set options that merge with the caller's section is reported and present;
    the key the wrapper provides is not reported -/
example : (match ev c03Env 30 .keys
      (.withOptions 4 (.apply 3 (.option 1 "S.X" Option.none Option.none) (.option 2 "S.Y" Option.none Option.none))
        (.dict [("S", .dict [("Y", .int 1)])]) true)
      (.dict [("S", .dict [("X", .int 2)])]) {} with
    | some (.ok ks, s') => decide (ks = .set [.str "S.X"]) && s'.events.all (fun e => !e.isReadAll)
    | _ => false) = true := by decide +kernel

/-! non-vacuity of the fingerprint theorems -/
example : fpPure (.dict [("A", .int 1), ("Z", .int 9)]) ["A"] = some [.dict [("A", .int 1)]] := by decide +kernel
example : fpPure (.dict [("A", .int 1), ("Z", .int 9)]) ["A"] = fpPure (.dict [("A", .int 1)]) ["A"] := by decide +kernel

/-- `keys` / `explain` of an application (`FunctionApplication`, `PartialApplication`) are the union of what the
    expression in the FUNCTION slot reports and what the arguments report -/
theorem application_keys_structure (env : Env) (run : Run) (id : Nat) (f : Expr) (args : List Expr)
    (kw : List (String × Expr)) (p : Bool) (op : Op) (h : op = .keys ∨ op = .explain) (o : V) :
    applicationOp env run id f args kw p op o = (do
      let a ← run op f o
      let b ← pseudo op (tid id 1) (do
        let x ← pseudo op (tid id 2) (unionOver run op args o)
        let y ← pseudo op (tid id 3) (unionOver run op (kw.map Prod.snd) o)
        pure (unionV x y))
      pure (unionV a b)) := by
  rcases h with h | h <;> subst h <;> simp [applicationOp]

/-- every key the function slot reports is a key of the application: if `keys` of the application succeeds with `ks`,
    `keys` of the function expression succeeded (from the same state) with a set contained in `ks` -/
theorem application_keys_cover_function (env : Env) (run : Run) (id : Nat) (f : Expr) (args : List Expr)
    (kw : List (String × Expr)) (p : Bool) (o : V) (s s' : St) (ks : V)
    (h : applicationOp env run id f args kw p .keys o s = some (.ok ks, s')) :
    ∃ kf s1, run .keys f o s = some (.ok kf, s1) ∧ ∀ k ∈ kf.setElems, k ∈ ks.setElems := by
  rw [application_keys_structure env run id f args kw p .keys (Or.inl rfl)] at h
  simp only [bind_eq_ok, pure_run] at h
  obtain ⟨kf, s1, hf, b, s2, -, h⟩ := h
  cases h
  exact ⟨kf, s1, hf, fun k hk => List.mem_append_left _ hk⟩

end Labrea
