/-
  C07 — overload and interface dispatch select exactly the registered implementation.

  All statements are about the state machine of LabreaModel/InterfaceSM.lean and hold for every
  environment `env` of opaque implementations / dispatch datasets / callbacks, every state and
  every history (lists of operations of any length); the model is tied to labrea by the
  differential check harness/props/C07.py.

  Reading guide (property text -> theorem):
  * "evaluates the implementation registered under the current dispatch value, the default when
     unregistered or undeterminable, fails if abstract"          -> `dispatch_selects`
  * "registrations made at any time apply to every later evaluation that was not already stored"
       -> `late_registration_invariant`, `late_registration_eval`, `late_registration`
  * "the callback applies to every implementation"
       -> `callback_every_impl`, `callback_every_impl_history`
  * "a value stored for one dispatch value is never returned for another"
       -> `no_cross_dispatch_fp`, `no_cross_dispatch`   (+ the two witnesses that the hypotheses
          are needed: `set_dispatch_collision` is known finding F24)
  * "all members of an interface resolve to the same alias, members without an override use the
     interface's default"            -> `interface_consistent`, `interface_default_members`
  * "an implementation that omits an abstract member or names an unknown one is rejected when it
     is defined and registers nothing"
       -> `impl_all_or_nothing`, `impl_unknown_member_rejected`, `impl_missing_abstract_rejected`,
          `old_code_violates_all_or_nothing`
-/
import LabreaModel.InterfaceLemmas
namespace Labrea.Iface.C07
open Labrea Labrea.Iface

/-- implementation `i` returns `(i, A?)` and reads option `A` when present; callbacks tag -/
def env0 : Env where
  implVal := fun i o => match alookup "A" o with
    | some v => .ok (.tuple [.int i, v])
    | Option.none => .ok (.tuple [.int i])
  implKeys := fun _ o => match alookup "A" o with
    | some _ => .ok ["A"]
    | Option.none => .ok []
  dispVal := fun _ o => match alookup "Q" o with
    | some v => .ok v
    | Option.none => .error (.keyNotFound "Q")
  dispKeys := fun _ o => match alookup "Q" o with
    | some _ => .ok ["Q"]
    | Option.none => .error (.keyNotFound "Q")
  cb := fun f v => .tuple [.str "cb", .int f, v]

def ax : Alias := .atom (.str "x")
def ay : Alias := .atom (.str "y")
def ox : Opts := [("K", .str "x")]
def oy : Opts := [("K", .str "y")]

/-- a dataset with default 0 and callback 9, `x -> 1`, evaluated, `x` re-registered to 2,
    `y -> 3` registered late, evaluated again under x (stored), y (late registration visible),
    z (default) and without K (default, dispatch undetermined) -/
def hist0 : List Op :=
  [ .newDs 0 (.key "K") (some 0) (some 9),
    .register 0 ax 1,
    .evaluate 0 ox,
    .register 0 ax 2,
    .overload [(0, [ay, .atom (.int 1)])] 3,
    .evaluate 0 ox,
    .evaluate 0 oy,
    .evaluate 0 [("K", .bool true)],
    .evaluate 0 [("K", .str "z")],
    .evaluate 0 [] ]

def cbv (i : Int) : V := .tuple [.str "cb", .int 9, .tuple [.int i]]

example : (runObs env0 St.init hist0).drop 2 =
    [ .eval ⟨.ok (cbv 1), false, some [("K", some (.str "x"))]⟩,
      .done, .done,
      .eval ⟨.ok (cbv 1), true, some [("K", some (.str "x"))]⟩,     -- stored before the re-registration
      .eval ⟨.ok (cbv 3), false, some [("K", some (.str "y"))]⟩,    -- late registration visible
      .eval ⟨.ok (cbv 3), false, some [("K", some (.bool true))]⟩,  -- True == 1
      .eval ⟨.ok (cbv 0), false, some [("K", some (.str "z"))]⟩,    -- unregistered: default
      .eval ⟨.ok (cbv 0), false, some []⟩ ] := by decide +kernel    -- undetermined: default

/-- **dispatch_selects.**  With nothing stored, evaluating a dataset yields the cold value `den`
    of its current configuration, and `den` is: the callback applied to the implementation
    registered under the current dispatch value; to the default when that value is unregistered;
    `SwitchError` when there is no default; when the dispatch cannot be evaluated, the callback
    applied to the default, or the dispatch's own error when there is none.
    (`hk`: the chosen implementation's `keys()` succeed — when they fail, so does the
    evaluation, with that error.) -/
theorem dispatch_selects (env : Env) (s : St) (d : DsId) (r : DsRec) (o : Opts)
    (hr : s.ds d = some r) (hcold : r.cache = []) :
    ((evalDs env s d o).1.res = den env r.toCfg o ∧ (evalDs env s d o).1.hit = false) ∧
    (∀ v a i, r.dispatch.eval env o = .ok v → aliasOf v = some a → tlookup a r.table = some i →
        (∃ ks, withDispatchKeys env r.toCfg o i = .ok ks) →
        den env r.toCfg o = (env.implVal i o).map (applyCb env r.callback)) ∧
    (∀ v a i, r.dispatch.eval env o = .ok v → aliasOf v = some a →
        tlookup a r.table = Option.none → r.default = some i →
        (∃ ks, withDispatchKeys env r.toCfg o i = .ok ks) →
        den env r.toCfg o = (env.implVal i o).map (applyCb env r.callback)) ∧
    (∀ v a, r.dispatch.eval env o = .ok v → aliasOf v = some a →
        tlookup a r.table = Option.none → r.default = Option.none →
        den env r.toCfg o = .error (.switchError a)) ∧
    (∀ e i, r.dispatch.eval env o = .error e → r.default = some i →
        (∃ ks, env.implKeys i o = .ok ks) →
        den env r.toCfg o = (env.implVal i o).map (applyCb env r.callback)) ∧
    (∀ e, r.dispatch.eval env o = .error e → r.default = Option.none →
        den env r.toCfg o = .error e) := by
  refine ⟨?_, ?_, ?_, ?_, ?_, ?_⟩
  · exact evalDs_miss hr fun _ _ => hcold ▸ rfl
  · intro v a i hv ha hl ⟨ks, hk⟩
    exact den_of_select (ch := .hit a i) (by simp only [select, hv, ha, hl]) hk
  · intro v a i hv ha hl hd ⟨ks, hk⟩
    exact den_of_select (ch := .dflt a i) (by simp only [select, hv, ha, hl, hd]) hk
  · intro v a hv ha hl hd
    simp only [den, select, hv, ha, hl, hd]
  · intro e i he hd ⟨ks, hk⟩
    exact den_of_select (ch := .fallback i) (by simp only [select, he, hd]) hk
  · intro e he hd
    simp only [den, select, he, hd]

/-- non-vacuity: a cold dataset whose dispatch value is registered (all hypotheses of the first
    clause hold) -/
example : ∃ (s : St) (r : DsRec), s.ds 0 = some r ∧ r.cache = [] ∧
    r.dispatch.eval env0 ox = .ok (.str "x") ∧ aliasOf (.str "x") = some ax ∧
    tlookup ax r.table = some 1 ∧ (∃ ks, withDispatchKeys env0 r.toCfg ox 1 = .ok ks) ∧
    (evalDs env0 s 0 ox).1.res = .ok (cbv 1) :=
  ⟨run env0 St.init (hist0.take 2), ⟨⟨.key "K", [(ax, 1)], some 0, some 9⟩, []⟩,
    by decide +kernel, rfl, by decide +kernel, by decide +kernel, by decide +kernel,
    ⟨["K"], by decide +kernel⟩, by decide +kernel⟩

/-- non-vacuity of the abstract clauses: `SwitchError` and the dispatch's own error -/
example : den env0 ⟨.key "K", [], Option.none, Option.none⟩ ox = .error (.switchError ax) ∧
    den env0 ⟨.key "K", [], Option.none, Option.none⟩ [] = .error (.keyNotFound "K") := by
  decide +kernel

/-- **late_registration (invariant).**  In every history, every stored entry of every dataset
    is the cold value — under exactly its fingerprint — of a configuration (dispatch, table,
    default, callback) that the dataset had at some earlier point `h'` of the history. -/
theorem late_registration_invariant (env : Env) (h : List Op) (d : DsId) (r : DsRec)
    (e : Fingerprint × V) (hr : (run env St.init h).ds d = some r) (he : e ∈ r.cache) :
    ∃ h' r' o', h' <+: h ∧ (run env St.init h').ds d = some r' ∧
      fingerprint env r'.toCfg o' = .ok e.1 ∧ den env r'.toCfg o' = .ok e.2 :=
  (stored_run h St.init d r e hr he).resolve_left fun ⟨_, hr0, _⟩ => nomatch hr0

/-- **late_registration (evaluation).**  In any state an evaluation returns either the entry
    stored under its fingerprint, or — when nothing is stored under it — the cold value under
    the *current* tables. -/
theorem late_registration_eval (env : Env) (s : St) (d : DsId) (o : Opts) (r : DsRec)
    (hr : s.ds d = some r) :
    (∃ fp v, fingerprint env r.toCfg o = .ok fp ∧ aget fp r.cache = some v ∧
        (evalDs env s d o).1.res = .ok v ∧ (evalDs env s d o).1.hit = true) ∨
    ((∀ fp, fingerprint env r.toCfg o = .ok fp → aget fp r.cache = Option.none) ∧
        (evalDs env s d o).1.res = den env r.toCfg o ∧ (evalDs env s d o).1.hit = false) :=
  evalDs_res env s d o r hr

/-- **late_registration.**  After `register d a i` at any point of a history, and any further
    operations that do not re-register an alias Python-equal to `a` on `d` (nor re-create `d`),
    `a` is still bound to `i`; whenever the dispatch evaluates to a value equal to `a` the
    selection is `i`, and an evaluation whose fingerprint is not stored returns the callback
    applied to `i`'s value. -/
theorem late_registration (env : Env) (s : St) (d : DsId) (a : Alias) (i : ImplId)
    (h : List Op) (o : Opts) (r0 : DsRec) (hex : s.ds d = some r0)
    (hno : NoOverwriteAll d a h) :
    ∃ r', (run env (step env s (.register d a i)).1 h).ds d = some r' ∧
      tlookup a r'.table = some i ∧
      ∀ v a', r'.dispatch.eval env o = .ok v → aliasOf v = some a' → pyEq a' a →
        select env r'.toCfg o = .ok (.hit a' i) ∧
        ((∀ fp, fingerprint env r'.toCfg o = .ok fp → aget fp r'.cache = Option.none) →
          (evalDs env (run env (step env s (.register d a i)).1 h) d o).1.res
              = den env r'.toCfg o ∧
          ((∃ ks, withDispatchKeys env r'.toCfg o i = .ok ks) →
            den env r'.toCfg o = (env.implVal i o).map (applyCb env r'.callback))) := by
  have h1 : (step env s (.register d a i)).1.ds d
      = some { r0 with table := tinsert a i r0.table } := by
    simp [step, regDs, modDs_ds, hex]
  have h2 : tlookup a ({ r0 with table := tinsert a i r0.table } : DsRec).table = some i :=
    tlookup_tinsert_eq rfl i r0.table
  obtain ⟨r', hr', hl'⟩ := run_keeps_registration env h _ d a i _ hno h1 h2
  refine ⟨r', hr', hl', ?_⟩
  intro v a' hv ha hpy
  have hsel : select env r'.toCfg o = .ok (.hit a' i) := by
    simp only [select, hv, ha, (tlookup_pyEq hpy _).trans hl']
  exact ⟨hsel, fun hmiss => ⟨(evalDs_miss hr' hmiss).1, fun ⟨ks, hk⟩ => den_of_select hsel hk⟩⟩

/-- non-vacuity: in `hist0`, `y` is registered after the first evaluation and the evaluation
    under `K = y` (not stored) returns the callback applied to implementation 3 -/
example : NoOverwriteAll 0 ay (hist0.drop 5) ∧
    (runObs env0 St.init hist0)[6]? = some (.eval ⟨.ok (cbv 3), false, some [("K", some (.str "y"))]⟩) := by
  constructor
  · intro op hop
    simp [hist0] at hop
    rcases hop with h | h | h | h | h <;> subst h <;> exact True.intro
  · decide +kernel

/-- non-vacuity of the invariant: the re-registered alias `x` keeps serving the entry stored
    under the *earlier* table (`x -> 1`), which is the cold value at prefix length 2 -/
example : ∃ r, (run env0 St.init hist0).ds 0 = some r ∧
    ([("K", some (.str "x"))], cbv 1) ∈ r.cache ∧
    den env0 (⟨.key "K", [(ax, 1)], some 0, some 9⟩ : Cfg) ox = .ok (cbv 1) ∧
    den env0 r.toCfg ox = .ok (cbv 2) := by
  refine ⟨_, rfl, ?_, ?_, ?_⟩ <;> decide +kernel

/-- **callback_every_impl.**  Whatever way the implementation was selected (registered alias,
    default for an unregistered value, default for an undeterminable dispatch), a successful
    cold value is the dataset's callback applied to that implementation's own value. -/
theorem callback_every_impl (env : Env) (c : Cfg) (o : Opts) (w : V)
    (h : den env c o = .ok w) :
    ∃ ch v, select env c o = .ok ch ∧ env.implVal ch.impl o = .ok v ∧
      w = applyCb env c.callback v := by
  -- `den` succeeded, so each of its stages did
  unfold den at h
  split at h
  · cases h
  · split at h
    · cases h
    · split at h
      · cases h
      · cases h; exact ⟨_, _, ‹_›, ‹_›, rfl⟩

theorem eval_cold_history (env : Env) (h : List Op) (d : DsId) (r : DsRec) (o : Opts) (w : V)
    (hr : (run env St.init h).ds d = some r)
    (hw : (evalDs env (run env St.init h) d o).1.res = .ok w) :
    ∃ h' r' o', h' <+: h ∧ (run env St.init h').ds d = some r' ∧ den env r'.toCfg o' = .ok w := by
  rcases evalDs_res env _ d o r hr with ⟨fp, v, _, hg, hres, _⟩ | ⟨_, hres, _⟩
  · cases hres.symm.trans hw
    obtain ⟨h', r', o', hpre, hr', _, hden⟩ :=
      late_registration_invariant env h d r (fp, w) hr (aget_some_mem hg)
    exact ⟨h', r', o', hpre, hr', hden⟩
  · exact ⟨h, r, o, List.prefix_refl h, hr, hres ▸ hw⟩

/-- **callback_every_impl (histories).**  Every value an evaluation returns in any history —
    stored or freshly computed — is the callback applied to the value of an implementation that
    was selected under a configuration the dataset has or had. -/
theorem callback_every_impl_history (env : Env) (h : List Op) (d : DsId) (r : DsRec) (o : Opts)
    (w : V) (hr : (run env St.init h).ds d = some r)
    (hw : (evalDs env (run env St.init h) d o).1.res = .ok w) :
    ∃ h' r' o' ch v, h' <+: h ∧ (run env St.init h').ds d = some r' ∧
      select env r'.toCfg o' = .ok ch ∧ env.implVal ch.impl o' = .ok v ∧
      w = applyCb env r'.callback v := by
  obtain ⟨h', r', o', hpre, hr', hden⟩ := eval_cold_history env h d r o w hr hw
  obtain ⟨ch, v, h1, h2, h3⟩ := callback_every_impl env r'.toCfg o' w hden
  exact ⟨h', r', o', ch, v, hpre, hr', h1, h2, h3⟩

/-- non-vacuity: all three kinds of selection occur in `hist0` and all carry the callback tag -/
example :
    select env0 ⟨.key "K", [(ax, 1)], some 0, some 9⟩ ox = .ok (.hit ax 1) ∧
    select env0 ⟨.key "K", [(ax, 1)], some 0, some 9⟩ oy = .ok (.dflt ay 0) ∧
    select env0 ⟨.key "K", [(ax, 1)], some 0, some 9⟩ [] = .ok (.fallback 0) ∧
    den env0 ⟨.key "K", [(ax, 1)], some 0, some 9⟩ ox = .ok (cbv 1) ∧
    den env0 ⟨.key "K", [(ax, 1)], some 0, some 9⟩ oy = .ok (cbv 0) ∧
    den env0 ⟨.key "K", [(ax, 1)], some 0, some 9⟩ [] = .ok (cbv 0) := by decide +kernel

/-- **no_cross_dispatch (fingerprints).**  For one dispatch expression that is a deterministic
    function of the keys it reports (`DispDet`; proved below for option keys, options with
    default and datasets without dispatch, a hypothesis on `env` for dispatch datasets): if the
    dispatch evaluates differently under `o'` (when an entry is stored, with any table) and
    under `o` (now), the two fingerprints differ — the entry cannot be returned. -/
theorem no_cross_dispatch_fp (env : Env) (c c' : Cfg) (o o' : Opts) (fp fp' : Fingerprint)
    (hd : c'.dispatch = c.dispatch) (hdet : DispDet env c.dispatch)
    (h : fingerprint env c o = .ok fp) (h' : fingerprint env c' o' = .ok fp')
    (hne : c'.dispatch.eval env o' ≠ c.dispatch.eval env o) : fp' ≠ fp := by
  intro e
  subst e
  exact hne (fp_eq_same_dispatch hd hdet h h')

theorem dispDet_builtin (env : Env) (k : String) (v : V) :
    DispDet env .missing ∧ DispDet env (.key k) ∧ DispDet env (.keyDefault k v) :=
  ⟨dispDet_missing env, dispDet_key env k, dispDet_keyDefault env k v⟩

/-- **no_cross_dispatch.**  In any history: if an evaluation of `d` under `o` returns a stored
    entry, that entry was stored (as the cold value) at an earlier point `h'`, under options
    `o'`, and — provided the dataset's dispatch expression then was the one it has now and is
    deterministic in its keys — the dispatch evaluated then exactly as it evaluates now: a
    value stored for one dispatch value is never returned for another. -/
theorem no_cross_dispatch (env : Env) (h : List Op) (d : DsId) (r : DsRec) (o : Opts)
    (fp : Fingerprint) (v : V) (hr : (run env St.init h).ds d = some r)
    (hfp : fingerprint env r.toCfg o = .ok fp) (hhit : aget fp r.cache = some v) :
    (evalDs env (run env St.init h) d o).1.res = .ok v ∧
    ∃ h' r' o', h' <+: h ∧ (run env St.init h').ds d = some r' ∧
      fingerprint env r'.toCfg o' = .ok fp ∧ den env r'.toCfg o' = .ok v ∧
      (r'.dispatch = r.dispatch → DispDet env r.dispatch →
        r'.dispatch.eval env o' = r.dispatch.eval env o ∧
        dispatchAlias env r'.toCfg o' = dispatchAlias env r.toCfg o) := by
  constructor
  · simp only [evalDs, hr, hfp, hhit]
  · obtain ⟨h', r', o', hpre, hr', h1, h2⟩ :=
      late_registration_invariant env h d r (fp, v) hr (aget_some_mem hhit)
    refine ⟨h', r', o', hpre, hr', h1, h2, ?_⟩
    intro hd hdet
    have := fp_eq_same_dispatch (c := r.toCfg) (c' := r'.toCfg) hd hdet hfp h1
    exact ⟨this, by rw [dispatchAlias, this]; rfl⟩

/-- non-vacuity: in `hist0` the evaluation under `K = x` after the re-registration hits the
    entry stored at prefix length 2, with the same dispatch expression -/
example : ∃ r, (run env0 St.init (hist0.take 5)).ds 0 = some r ∧
    fingerprint env0 r.toCfg ox = .ok [("K", some (.str "x"))] ∧
    aget [("K", some (.str "x"))] r.cache = some (cbv 1) ∧ DispDet env0 r.dispatch :=
  ⟨_, rfl, by decide +kernel, by decide +kernel, dispDet_key env0 "K"⟩

/-- The hypothesis "same dispatch expression" is needed — known finding **F24**: after
    `set_dispatch` on a dataset with a stored entry, the entry stored while the old dispatch
    (`Option('K','x')`) evaluated to `x` is returned while the new one (`Option('K','y')`)
    evaluates to `y`.  labrea behaves exactly like this. -/
theorem set_dispatch_collision :
    (runObs env0 St.init
      [ .newDs 0 (.keyDefault "K" (.str "x")) (some 0) Option.none,
        .register 0 ax 1, .register 0 ay 2,
        .evaluate 0 [],
        .setDispatch 0 (.keyDefault "K" (.str "y")),
        .evaluate 0 [] ]).drop 3 =
    [ .eval ⟨.ok (.tuple [.int 1]), false, some []⟩, .done,
      .eval ⟨.ok (.tuple [.int 1]), true, some []⟩ ] ∧
    den env0 ⟨.keyDefault "K" (.str "y"), [(ax, 1), (ay, 2)], some 0, Option.none⟩ []
      = .ok (.tuple [.int 2]) := by decide +kernel

/-- a dispatch dataset whose value depends on an option (`Q`) it does not report as a key -/
def envBad : Env := { env0 with dispKeys := fun _ _ => .ok [] }

/-- The hypothesis `DispDet` is needed: with a dispatch whose value is not a function of its
    reported keys, the value stored for dispatch value `x` is returned for `y`. -/
theorem nondeterministic_dispatch_collision :
    (runObs envBad St.init
      [ .newDs 0 (.dataset 0) (some 0) Option.none,
        .register 0 ax 1, .register 0 ay 2,
        .evaluate 0 [("Q", .str "x")],
        .evaluate 0 [("Q", .str "y")] ]).drop 3 =
    [ .eval ⟨.ok (.tuple [.int 1]), false, some []⟩,
      .eval ⟨.ok (.tuple [.int 1]), true, some []⟩ ] ∧
    ¬ DispDet envBad (.dataset 0) := by
  refine ⟨by decide +kernel, ?_⟩
  intro h
  have := h.det [("Q", .str "x")] [("Q", .str "y")]
    (by intro ks hk k hm; simp [Dispatch.keys, envBad] at hk; subst hk; cases hm)
    (by intro ks hk k hm; simp [Dispatch.keys, envBad] at hk; subst hk; cases hm)
  revert this
  decide +kernel

/-- **interface_consistent.**  In every history that does not take a member's dispatch away
    (`HistOK`: no `set_dispatch`/re-creation of a member dataset, interfaces are defined once
    over existing datasets that are not members of another interface), all members of an
    interface carry the interface's dispatch; hence under one options dictionary they evaluate
    it to the same value and every member's selection reports the same alias. -/
theorem interface_consistent (env : Env) (h : List Op) (hok : HistOK env St.init h)
    (I : IfId) (ir : IfRec) (hI : (run env St.init h).ifs I = some ir)
    (m1 m2 : String × DsId) (h1 : m1 ∈ ir.members) (h2 : m2 ∈ ir.members) :
    ∃ r1 r2, (run env St.init h).ds m1.2 = some r1 ∧ (run env St.init h).ds m2.2 = some r2 ∧
      r1.dispatch = ir.dispatch ∧ r2.dispatch = ir.dispatch ∧
      ∀ o, r1.dispatch.eval env o = r2.dispatch.eval env o ∧
        ∀ ch1 ch2, select env r1.toCfg o = .ok ch1 → select env r2.toCfg o = .ok ch2 →
          ch1.alias? = ch2.alias? := by
  have hinv := ifaceOK_run (env := env) h St.init ifaceOK_init hok
  obtain ⟨r1, hr1, hd1⟩ := hinv I ir hI m1 h1
  obtain ⟨r2, hr2, hd2⟩ := hinv I ir hI m2 h2
  refine ⟨r1, r2, hr1, hr2, hd1, hd2, ?_⟩
  intro o
  have he : r1.dispatch.eval env o = r2.dispatch.eval env o := by rw [hd1, hd2]
  refine ⟨he, ?_⟩
  intro ch1 ch2 hs1 hs2
  rw [select_alias hs1, select_alias hs2, dispatchAlias, he]
  rfl

/-- **interface_default_members.**  After an accepted implementation (each member dataset
    belongs to the interfaces under one name), a member the implementation does not override
    is untouched — its table and default are what they were, so under the new aliases it uses
    the interface's default — and an overridden member maps every alias to the override. -/
theorem interface_default_members (s : St) (ifaces : List IfId) (aliases : List Alias)
    (provided : List (String × ImplId))
    (hok : (defineImpl s ifaces aliases provided).2 = Option.none)
    (hfun : ∀ m ∈ flatMembers s ifaces, ∀ m' ∈ flatMembers s ifaces, m.2 = m'.2 → m.1 = m'.1)
    (m : String × DsId) (hm : m ∈ flatMembers s ifaces) :
    (aget m.1 provided = Option.none →
        (defineImpl s ifaces aliases provided).1.ds m.2 = s.ds m.2) ∧
    (∀ i, aget m.1 provided = some i → ∀ r, s.ds m.2 = some r →
        ∃ r', (defineImpl s ifaces aliases provided).1.ds m.2 = some r' ∧
          r'.dispatch = r.dispatch ∧ r'.default = r.default ∧ r'.callback = r.callback ∧
          r'.cache = r.cache ∧ ∀ a ∈ aliases, tlookup a r'.table = some i) := by
  rcases defineImpl_cases s ifaces aliases provided with ⟨e, he⟩ | he
  · rw [he] at hok; cases hok
  · rw [he]
    simp only [applyRegs_ds]
    -- `hfun`: whatever is registered on `m`'s dataset is what is provided under `m`'s name
    have key : ∀ x ∈ implRegs (flatMembers s ifaces) aliases provided, x.1 = m.2 →
        aget m.1 provided = some x.2.2 := by
      intro x hx hxd
      obtain ⟨n, hn, hp, _⟩ := mem_implRegs.mp hx
      rwa [← hfun (n, x.1) hn m hm hxd]
    constructor
    · intro hnone
      rw [funext (regsTable_untouched m.2 _ fun x hx hxd => nomatch hnone ▸ key x hx hxd)]
      cases s.ds m.2 <;> rfl
    · intro i hi r hr
      rw [hr]
      refine ⟨_, rfl, rfl, rfl, rfl, rfl, fun a ha => regsTable_set _ _ _ _ ?_ ?_ _⟩
      · exact fun x hx hxd _ => Option.some.inj ((key x hx hxd).symm.trans hi)
      · exact ⟨(m.2, a, i), mem_implRegs.mpr ⟨m.1, hm, hi, ha⟩, rfl, rfl⟩

/-- interface 0 over `K`: member `a` (dataset 0, abstract), `b` (dataset 1, abstract),
    `c` (dataset 2, default 5); interface 1 over `K2`: member `a` (dataset 3, default 6) -/
def ifaceHist : List Op :=
  [ .newDs 0 .missing Option.none Option.none,
    .newDs 1 .missing Option.none Option.none,
    .newDs 2 .missing (some 5) Option.none,
    .newDs 3 .missing (some 6) Option.none,
    .defineInterface 0 (.key "K") [("a", 0), ("b", 1), ("c", 2)],
    .defineInterface 1 (.key "K2") [("a", 3)] ]

def sIface : St := run env0 St.init ifaceHist

/-- non-vacuity of `interface_consistent` and `interface_default_members`: the history is
    admissible, an accepted two-interface implementation registers `a` on both interfaces and
    `b`, leaves `c` alone (default 5 under the new alias) -/
example : HistOK env0 St.init ifaceHist ∧
    (defineImpl sIface [0, 1] [ax, .atom (.int 1)] [("a", 10), ("b", 11)]).2 = Option.none ∧
    (∀ m ∈ flatMembers sIface [0, 1], ∀ m' ∈ flatMembers sIface [0, 1], m.2 = m'.2 → m.1 = m'.1) ∧
    (runObs env0 sIface
      [ .defineImpl [0, 1] [ax, .atom (.int 1)] [("a", 10), ("b", 11)],
        .evaluate 0 ox, .evaluate 1 ox, .evaluate 2 ox,
        .evaluate 3 [("K2", .bool true)], .evaluate 3 [] ]) =
      [ .done,
        .eval ⟨.ok (.tuple [.int 10]), false, some [("K", some (.str "x"))]⟩,
        .eval ⟨.ok (.tuple [.int 11]), false, some [("K", some (.str "x"))]⟩,
        .eval ⟨.ok (.tuple [.int 5]), false, some [("K", some (.str "x"))]⟩,
        .eval ⟨.ok (.tuple [.int 10]), false, some [("K2", some (.bool true))]⟩,
        .eval ⟨.ok (.tuple [.int 6]), false, some []⟩ ] := by
  -- no interface yet: nothing is a member
  have noIfs : ∀ {s : St} {d : DsId}, (∀ I, s.ifs I = Option.none) → ¬ MemberOf s d :=
    fun h ⟨I, _, _, hI, _⟩ => by rw [h I] at hI; cases hI
  refine ⟨⟨noIfs fun _ => rfl, noIfs fun _ => rfl, noIfs fun _ => rfl, noIfs fun _ => rfl,
    ⟨rfl, fun m hm => ⟨?_, noIfs fun _ => rfl⟩⟩, ⟨rfl, fun m hm => ?_⟩, trivial⟩,
    by decide +kernel, by decide +kernel, by decide +kernel⟩
  · simp only [List.mem_cons, List.not_mem_nil, or_false] at hm
    rcases hm with rfl | rfl | rfl <;> exact ⟨_, rfl⟩
  · cases List.mem_singleton.mp hm
    refine ⟨⟨_, rfl⟩, fun ⟨I, ir, n, h, hmem⟩ => ?_⟩
    -- dataset 3 is not among the members of interface 0, the only one so far
    simp only [step, defIface_ifs] at h
    split at h <;> cases h
    simp at hmem

/-- **impl_all_or_nothing.**  An implementation that is rejected (TypeError) leaves the whole
    state — every member's table — exactly as it was. -/
theorem impl_all_or_nothing (env : Env) (s : St) (ifaces : List IfId) (aliases : List Alias)
    (provided : List (String × ImplId)) :
    ((defineImpl s ifaces aliases provided).2 ≠ Option.none →
        (defineImpl s ifaces aliases provided).1 = s) ∧
    (∀ e, (step env s (.defineImpl ifaces aliases provided)).2 = .typeError e →
        (step env s (.defineImpl ifaces aliases provided)).1 = s) := by
  rcases defineImpl_cases s ifaces aliases provided with ⟨e, he⟩ | he
  · constructor
    · intro _; rw [he]
    · intro e' _; simp only [step, he]
  · constructor
    · intro h; rw [he] at h; exact absurd rfl h
    · intro e' h; simp only [step, he] at h; cases h

/-- **impl_unknown_member_rejected.**  An implementation that names a member no interface has
    is rejected with a TypeError naming such a member, and the state is unchanged. -/
theorem impl_unknown_member_rejected (s : St) (ifaces : List IfId) (aliases : List Alias)
    (provided : List (String × ImplId))
    (h : ∃ p ∈ provided, p.1 ∉ (flatMembers s ifaces).map Prod.fst) :
    ∃ n, defineImpl s ifaces aliases provided = (s, some (.unknownMember n)) ∧
      n ∈ provided.map Prod.fst ∧ n ∉ (flatMembers s ifaces).map Prod.fst := by
  cases hu : unknownCheck (flatMembers s ifaces) provided with
  | none =>
    obtain ⟨p, hp, hn⟩ := h
    exact absurd (unknownCheck_none.mp hu p hp) hn
  | some p =>
    exact ⟨p.1, by simp only [defineImpl, hu], List.mem_map.mpr ⟨p, (unknownCheck_some hu).1, rfl⟩,
      (unknownCheck_some hu).2⟩

/-- **impl_missing_abstract_rejected.**  An implementation (naming only known members) that
    omits an abstract member is rejected with a TypeError, and the state is unchanged. -/
theorem impl_missing_abstract_rejected (s : St) (ifaces : List IfId) (aliases : List Alias)
    (provided : List (String × ImplId))
    (hknown : ∀ p ∈ provided, p.1 ∈ (flatMembers s ifaces).map Prod.fst)
    (h : ∃ m ∈ flatMembers s ifaces, isAbstract s m.2 = true ∧ aget m.1 provided = Option.none) :
    ∃ n, defineImpl s ifaces aliases provided = (s, some (.missingAbstract n)) ∧
      aget n provided = Option.none := by
  have hu := unknownCheck_none.mpr hknown
  cases ha : abstractCheck s (flatMembers s ifaces) provided with
  | none =>
    obtain ⟨m, hm, habs, hnone⟩ := h
    exact absurd hnone (abstractCheck_none.mp ha m hm habs)
  | some n => exact ⟨n, by simp only [defineImpl, hu, ha], (abstractCheck_some ha).1⟩

/-- non-vacuity: both rejections occur on `sIface`; and the accepted case is not an error -/
example :
    (∃ p ∈ [("a", 10), ("zz", 12)], p.1 ∉ (flatMembers sIface [0]).map Prod.fst) ∧
    (defineImpl sIface [0] [ax] [("a", 10), ("zz", 12)]).2 = some (.unknownMember "zz") ∧
    (∃ m ∈ flatMembers sIface [0], isAbstract sIface m.2 = true ∧
        aget m.1 [("a", (10 : ImplId))] = Option.none) ∧
    (defineImpl sIface [0] [ax] [("a", 10)]).2 = some (.missingAbstract "b") ∧
    (defineImpl sIface [0] [ax] [("a", 10), ("b", 11)]).2 = Option.none := by
  refine ⟨⟨("zz", 12), by simp, by decide +kernel⟩, by decide +kernel,
    ⟨("b", 1), by decide +kernel, by decide +kernel, by decide +kernel⟩,
    by decide +kernel, by decide +kernel⟩

/-- **The loop before the repair violated `impl_all_or_nothing`** (defect F8, fixed in labrea
    commit dd8a01f): member `a` is registered before the missing abstract member `b` raises. -/
theorem old_code_violates_all_or_nothing :
    (defineImplOld sIface [0] [ax] [("a", 10)]).2 = some (.missingAbstract "b") ∧
    (defineImplOld sIface [0] [ax] [("a", 10)]).1.ds 0 ≠ sIface.ds 0 ∧
    (Option.map (fun r => tlookup ax r.table) ((defineImplOld sIface [0] [ax] [("a", 10)]).1.ds 0))
      = some (some 10) ∧
    (defineImpl sIface [0] [ax] [("a", 10)]).1.ds 0 = sIface.ds 0 := by decide +kernel

end Labrea.Iface.C07
