/-
  C20 — datasets survive a pickle round trip with identical behaviour.   Level: PARTIAL.

  Full statement of the property (not provable as such inside Lean, because CPython's pickle and the
  bodies of user functions are not formalised):

      for every dataset graph g whose callables are importable module-level functions (decorator
      form and explicit `dataset(f)` form), every options dictionary o, every protocol, in the
      same or a fresh interpreter:   observe (loads (dumps g)) o = observe g o
      (values, failures, keys), overloads registered before pickling are kept, and the copy can
      be registered on and evaluated further.

  What is proved here is the *state algebra* behind it, on the model `LabreaModel/PickleSM.lean`
  (object graphs as heaps, functions pickled by qualified name through the module namespace,
  `Overloaded.__getstate__/__setstate__`, memoisation of shared references):

    * `state_roundtrip`  — for EVERY heap (any size, any sharing, cycles allowed) whose function
      references resolve by reference, `decode ns' (encode h ns r)` succeeds and the result is
      isomorphic (explicit renaming `σ`, injective, onto, object-wise equal) to the part of `h`
      reachable from `r`; `state_roundtrip_locks`: with the locks `__init__` creates, the lock
      keys agree too, so the isomorphism is plain renaming of ids.
    * `behaviour_preserved` — hence every observation that is a function of the reachable graph up
      to renaming of ids has the same value on the copy.  (That evaluate/keys/explain of labrea ARE
      such functions — they read nothing but instance attributes and call functions by what the
      name denotes — is the part that is *not* proved; the correspondence check
      `harness/props/C20.py` compares the real observations before / after the real round trip.)
    * `overloads_preserved` — the lookup table of every reachable `Overloaded` is carried over and a
      later `register` on the copy succeeds and extends it.
    * `decorator_form_unpicklable` — if a reachable function's qualified name is bound to another
      object (the decorator form rebinds it to the Dataset), `encode` fails: finding F12.
    * `explicit_form_picklable` — conversely, when every function name still denotes the function
      (`d = dataset(f)`), `encode` cannot fail.
  Proof method: the traversal as a fuel-free relation (`PickleLemmas.Enc`), induction on it for the
  memo (`Enc.spec`) and for decoding (`Enc.dec`), pigeonhole for the sufficiency of the fuel
  (`encFld_total`).
-/
import LabreaModel.PickleLemmas
namespace Labrea.Pickle

/-- **state_roundtrip.**  For every heap whose function references resolve by reference (and
    which is closed and exposes no lock through `getstate`), and every receiving namespace that
    defines the names the sender can import, pickling succeeds, unpickling succeeds, and the
    rebuilt heap is isomorphic to the part reachable from the root: `σ` maps the root to the new
    root, is injective on reachable objects (sharing preserved, nothing merged), every reachable
    object `o` at `i` reappears at `σ i` as `setstate (rename σ (getstate i o))`, and the rebuilt
    heap contains nothing else.  Unbounded: any number of objects, any sharing, cycles. -/
theorem state_roundtrip (h : Heap) (ns : Namespace) (ns' : Defined) (r : Id)
    (wf : Picklable h ns r) (hrecv : ∀ n i, ns n = some i → ns' n = true) :
    ∃ p σ h' r', encode h ns r = .ok p ∧ decode ns' p = .ok (h', r') ∧ Iso σ h r h' r' := by
  obtain ⟨p, memo, e⟩ := encodeM_total wf
  obtain ⟨h', d, iso, _⟩ := encode_sound (ns' := ns') hrecv e
  exact ⟨p, idx memo, h', idx memo r, encode_of_encodeM e, d, iso⟩

/-- non-vacuity: the explicit-form graph satisfies the hypotheses … -/
example : Picklable exHeap nsExplicit 0 := picklableB_sound (by decide)
example : ∀ n i, nsExplicit n = some i → recvDefined n = true := exRecv
example : ∃ p σ h' r', encode exHeap nsExplicit 0 = .ok p ∧ decode recvDefined p = .ok (h', r') ∧
    Iso σ exHeap 0 h' r' :=
  state_roundtrip exHeap nsExplicit recvDefined 0 (picklableB_sound (by decide)) exRecv
/-- … and the conclusion is the expected concrete copy (sharing of the function object between
    `Value.value` and `__wrapped__` kept: both are `ref 6`; cache content carried along) -/
example : roundtrip exHeap nsExplicit recvDefined 0 = .ok (exCopy, 0) := by decide +kernel

/-- **state_roundtrip_locks.**  If moreover every `Overloaded` holds the lock registered under its
    own id (which `Overloaded.__init__` establishes), the copy holds the lock registered under
    the same key: every reachable object reappears as the plain renaming of itself. -/
theorem state_roundtrip_locks (h : Heap) (ns : Namespace) (ns' : Defined) (r : Id)
    (wf : Picklable h ns r) (hrecv : ∀ n i, ns n = some i → ns' n = true)
    (own : ∀ i o, hget h i = some o → OwnLock i o) :
    ∃ p σ h' r', encode h ns r = .ok p ∧ decode ns' p = .ok (h', r') ∧ Iso σ h r h' r' ∧
      ∀ i, Reach h r i → ∃ o, hget h i = some o ∧ hget h' (σ i) = some (renObj σ o) := by
  obtain ⟨p, σ, h', r', e, d, iso⟩ := state_roundtrip h ns ns' r wf hrecv
  refine ⟨p, σ, h', r', e, d, iso, ?_⟩
  intro i hi
  obtain ⟨o, ho, hc⟩ := iso.obj i hi
  exact ⟨o, ho, by rw [hc, viaState_ownLock σ i o (own i o ho)]⟩

example : ∀ i o, hget exHeap i = some o → OwnLock i o := by
  intro i o ho
  have hm := hget_mem ho
  simp [exHeap] at hm
  rcases hm with ⟨rfl, rfl⟩ | ⟨rfl, rfl⟩ | ⟨rfl, rfl⟩ | ⟨rfl, rfl⟩ | ⟨rfl, rfl⟩ | ⟨rfl, rfl⟩ |
    ⟨rfl, rfl⟩ | ⟨rfl, rfl⟩ | ⟨rfl, rfl⟩ | ⟨rfl, rfl⟩ <;> simp [OwnLock, getAttr]

/-- an observation that only depends on the reachable graph up to renaming of object ids -/
def Invariant {β : Type} (B : Heap → Id → β) : Prop :=
  ∀ σ h r h' r', Iso σ h r h' r' → B h r = B h' r'

/-- **behaviour_preserved.**  Any such observation gives the same result on the unpickled copy.
    (Partial: that labrea's evaluate / keys / explain are such observations is checked by the
    correspondence run, not proved.) -/
theorem behaviour_preserved {β : Type} (B : Heap → Id → β) (inv : Invariant B)
    (h : Heap) (ns : Namespace) (ns' : Defined) (r : Id)
    (wf : Picklable h ns r) (hrecv : ∀ n i, ns n = some i → ns' n = true) :
    ∃ p h' r', encode h ns r = .ok p ∧ decode ns' p = .ok (h', r') ∧ B h' r' = B h r := by
  obtain ⟨p, σ, h', r', e, d, iso⟩ := state_roundtrip h ns ns' r wf hrecv
  exact ⟨p, h', r', e, d, (inv σ h r h' r' iso).symm⟩

/-- non-vacuity: "class and attribute names of the root" is such an observation -/
example : Invariant (fun h r => (hget h r).map (·.head)) := by
  intro σ h r h' r' iso
  obtain ⟨o, ho, hc⟩ := iso.obj r (Reach.refl r)
  rw [iso.root] at hc
  simp [ho, hc, viaState_head]

/-- **overloads_preserved.**  For every `Overloaded` object reachable from the pickled root (with
    its lock and its lookup dict `items`), after the round trip the copy's table is the original
    table with ids renamed — nothing dropped, nothing added, order kept — and `register` on the
    copy succeeds for every key / value and yields the table extended by that entry. -/
theorem overloads_preserved (h : Heap) (ns : Namespace) (ns' : Defined) (r : Id)
    (wf : Picklable h ns r) (hrecv : ∀ n i, ns n = some i → ns' n = true)
    (ov d : Id) (attrs : List String) (kids items : List Fld)
    (reach : Reach h r ov) (io : IsOverloaded h ov attrs kids d items) :
    ∃ p σ h' r', encode h ns r = .ok p ∧ decode ns' p = .ok (h', r') ∧
      table h ov = some (dictPairs items) ∧
      table h' (σ ov) = some (renPairs σ (dictPairs items)) ∧
      ∀ key val, ∃ h'', register h' (σ ov) key val = .ok h'' ∧
        table h'' (σ ov) = some (pairsInsert key val (renPairs σ (dictPairs items))) := by
  obtain ⟨p, σ, h', r', e, dd, iso⟩ := state_roundtrip h ns ns' r wf hrecv
  have io' := iso_overloaded iso reach io
  have t' := table_of_isOverloaded io'
  rw [dictPairs_map] at t'
  refine ⟨p, σ, h', r', e, dd, table_of_isOverloaded io, t', ?_⟩
  intro key val
  obtain ⟨h'', hr, ht, _⟩ := register_extends io' key val
  rw [dictPairs_map] at ht
  exact ⟨h'', hr, ht⟩

/-- non-vacuity: object 1 of the example graph is such an `Overloaded`, reachable from the root -/
example : IsOverloaded exHeap 1 ["dispatch", "lookup", "default", "_lock"]
    [.sc (.str "K"), .ref 2, .ref 3, .lock 1] 2 [.sc (.str "one"), .ref 6] :=
  ⟨by decide, ⟨1, by decide⟩, by decide, by decide⟩
example : Reach exHeap 0 1 := exReachOv
/-- concretely: the copy's table has the entry registered before pickling, and one more `register`
    (key `late`, value the copied Option) adds to it -/
example : table exCopy 1 = some [(.sc (.str "one"), .ref 3)] := by decide
example : (match register exCopy 1 (.sc (.str "late")) (.ref 3) with
    | .ok h'' => table h'' 1
    | .error _ => none) = some [(.sc (.str "one"), .ref 3), (.sc (.str "late"), .ref 3)] := by decide
/-- and why `__setstate__` must re-obtain the lock: on the bare pickled state (`_lock` = the id)
    `register` fails -/
example : register [(1, ⟨.inst "Overloaded" ["dispatch", "lookup", "default", "_lock"],
      [.sc (.str "K"), .ref 2, .ref 4, .sc (.int 1)]⟩), (2, ⟨.dict, []⟩)] 1
    (.sc (.str "late")) (.sc .none) = .error .noLock := by decide

/-- **decorator_form_unpicklable.**  If some object reachable from the root is a function whose
    qualified name is bound, in the module namespace, to a *different* object — which is what
    `@dataset def f` does: `m.f` becomes the Dataset — then `encode` fails, whatever else the
    graph contains. -/
theorem decorator_form_unpicklable (h : Heap) (ns : Namespace) (r f d : Id) (o : Obj) (n : Name)
    (reach : Reach h r f) (hf : hget h f = some o) (hfn : (getstate f o).head = .func n)
    (hns : ns n = some d) (hne : d ≠ f) : ∀ p, encode h ns r ≠ .ok p := by
  intro p e
  obtain ⟨memo, em⟩ := encodeM_of_encode e
  obtain ⟨_, reach_iff, fn⟩ := encodeM_memo em
  have := fn f o n ((reach_iff f).mp reach) hf hfn
  rw [hns] at this
  exact hne (Option.some.inj this)

/-- the concrete witness: same graph, decorator-form namespace — `PicklingError: it's not the
    same object as m.f` -/
example : failsWith (.notSame "m.f") (encode exHeap nsDecorator 0) = true := by decide
/-- the hypotheses of the theorem hold for it (function 5 is reachable through `overloads`) -/
example : Reach exHeap 0 5 := exReachFn
example : ∀ p, encode exHeap nsDecorator 0 ≠ .ok p :=
  decorator_form_unpicklable exHeap nsDecorator 0 5 0 ⟨.func "m.f", []⟩ "m.f" exReachFn
    (by decide) (by decide) (by decide) (by decide)
example : nsDecorator "m.f" = some 0 ∧ (0 : Id) ≠ 5 := by decide

/-- **explicit_form_picklable.**  Conversely, when every function name still denotes the function
    (the explicit form `d = dataset(f)` keeps `m.f` bound to `f`), encoding cannot fail. -/
theorem explicit_form_picklable (h : Heap) (ns : Namespace) (r : Id) (wf : Picklable h ns r) :
    ∃ p, encode h ns r = .ok p := by
  obtain ⟨p, memo, e⟩ := encodeM_total wf
  exact ⟨p, encode_of_encodeM e⟩

/-- the very same graph with the explicit-form namespace pickles (and, above, round-trips to `exCopy`) -/
example : ∃ p, encode exHeap nsExplicit 0 = .ok p :=
  explicit_form_picklable exHeap nsExplicit 0 (picklableB_sound (by decide))
example : (match encode exHeap nsExplicit 0 with | .ok _ => true | .error _ => false) = true := by
  decide

end Labrea.Pickle
