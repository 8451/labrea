/-
  C16 — feature switches change side behaviour only, never values.
-/
import LabreaModel.Uniform
namespace Labrea

/-- **cache_off_no_io.** With `labrea.cache.disabled()` active, no operation of any expression on any
    options from any state reads, writes or forgets a cache entry, and no backend call is consumed:
    the store after the run is the store before it.  (All 23 node kinds, all four operations, any fuel.) -/
theorem cache_off_no_io {env : Env} (hoff : env.cacheCtxOff = true) (n : Nat) (op : Op) (e : Expr) (o : V)
    (s : St) (r : Except Err V) (s' : St) (h : ev env n op e o s = some (r, s')) :
    s'.caches = s.caches ∧ s'.scripts = s.scripts :=
  ev_ctxOff_sameStore hoff n op e o s r s' h

/-- with caching disabled `Cached.evaluate` is the inner evaluation (it recomputes) -/
theorem cache_off_recomputes {env : Env} (hoff : env.cacheCtxOff = true) (run : Run) (x : Expr) (c : Nat) (o : V) (s : St) :
    cachedOp env run x c .evaluate o s =
      match run .evaluate x o { s with events := .req "cache_exists" x.id :: s.events } with
      | Option.none => Option.none
      | some (.error e, s') => some (.error e, s')
      | some (.ok v, s') => some (.ok v, { s' with events := .req "cache_set" x.id :: s'.events }) := by
  simp only [cachedOp, cacheLookup, existsReq, setReq, cacheDisabled, hoff, if_true, bind_run, emit_run, pure_run]
  cases hx : run .evaluate x o { s with events := .req "cache_exists" x.id :: s.events } with
  | none => simp [hx]
  | some p => obtain ⟨r, s'⟩ := p; cases r <;> simp [hx]

/-- a `nocache` backend never answers: `exists` is false, `get` fails, `set` stores nothing -/
theorem nocache_backend {env : Env} (run : Run) (x : Expr) (c : Nat) (o v : V) (hk : env.cacheKind c = .nocache) :
    backendExists env run x c o = pure false ∧ backendGet env run x c o = raise cacheGetFailure ∧
      backendSet env run x c o v = pure () := by
  simp [backendExists, backendGet, backendSet, hk]

/-- **effects_off_none.** When the effects switch evaluates truthy under the options, `Computation.evaluate`
    returns the value and runs no effect (no callback expression is even evaluated). -/
theorem effects_off_none (env : Env) (run : Run) (x : Expr) (effects : List Expr) (o : V) (s s1 s2 : St) (v sw : V)
    (hx : run .evaluate x o s = some (.ok v, s1))
    (hs : run .evaluate effectsDisabledOption o s1 = some (.ok sw, s2)) (ht : sw.truthy = true) :
    computationOp env run x effects .evaluate o s = some (.ok v, s2) := by
  simp [computationOp, hx, hs, ht]

/-- the value of a `Computation` is the value of its body, effects on or off -/
theorem effects_preserve_value (env : Env) (run : Run) (x : Expr) (effects : List Expr) (o : V) (s s' : St) (w : V)
    (h : computationOp env run x effects .evaluate o s = some (.ok w, s')) :
    ∃ s1, run .evaluate x o s = some (.ok w, s1) := by
  simp only [computationOp, bind_eq_ok] at h
  obtain ⟨v, s1, hx, b, s2, -, h⟩ := h
  refine ⟨s1, ?_⟩
  split at h
  · cases h; exact hx
  · obtain ⟨_, _, -, h⟩ := bind_eq_ok.mp h
    cases h; exact hx

/-- **logging_off_none.** Under `labrea.logging.disabled()` a `Logged` node issues its log request and
    emits nothing; otherwise exactly one record per evaluation, unless the option switch is truthy. -/
theorem logging_ctx_off (env : Env) (run : Run) (n id : Nat) (x : Expr) (msg : String) (o : V) (s : St)
    (hoff : env.logCtxOff = true) :
    nodeOp env run n .evaluate (.logged id x msg) o s =
      run .evaluate x o { s with events := .req "log" x.id :: s.events } := by
  simp [nodeOp, hoff]

theorem logging_one_request_per_evaluation (env : Env) (run : Run) (n id : Nat) (x : Expr) (msg : String) (o : V) (s s1 : St) (sw : V)
    (hon : env.logCtxOff = false)
    (hs : run .evaluate loggingDisabledOption o { s with events := .req "log" x.id :: s.events } = some (.ok sw, s1)) :
    nodeOp env run n .evaluate (.logged id x msg) o s =
      run .evaluate x o { s1 with events := .log msg (!sw.truthy) :: s1.events } := by
  simp [nodeOp, hon, hs]

/-- the run appended events to the log, none of them a log record (emitted or suppressed) -/
def NoNewLog (s s' : St) : Prop := ∃ l, s'.events = l ++ s.events ∧ ∀ e ∈ l, e.isLog = false

theorem noNewLog_rel : CacheRel NoNewLog where
  refl _ := ⟨[], rfl, by simp⟩
  trans := fun ⟨l1, h1, q1⟩ ⟨l2, h2, q2⟩ => ⟨l2 ++ l1, by rw [h2, h1, List.append_assoc], by
    intro e he; rcases List.mem_append.mp he with h | h
    · exact q2 e h
    · exact q1 e h⟩
  emit _ ev hq := ⟨[ev], rfl, by simpa using hq⟩
  setCache s c es := ⟨[], by unfold St.setCacheEntries; split <;> rfl, by simp⟩
  setScripts _ _ := ⟨[], rfl, by simp⟩

/-- **logging_off_silent.** Under `with labrea.logging.disabled():` no operation of any expression (all
    23 node kinds, datasets with any nesting of `Logged` wrappers included), on any options, from any
    state, with caches on or off, produces a log record — not even one suppressed by the option switch:
    the `LABREA.LOGGING.DISABLED` option is not consulted at all. -/
theorem logging_off_silent {env : Env} (hoff : env.logCtxOff = true) (n : Nat) (op : Op) (e : Expr) (o : V)
    (s : St) (r : Except Err V) (s' : St) (h : ev env n op e o s = some (r, s')) :
    ∃ l, s'.events = l ++ s.events ∧ ∀ e ∈ l, e.isLog = false :=
  ((spec_ev noNewLog_rel truePred env (Or.inl hoff) n op e o).run s r s' h).1

/-- validate / keys / explain never log, logging on or off (they are not evaluations) -/
theorem inspection_of_logged_never_logs (env : Env) (run : Run) (n id : Nat) (x : Expr) (msg : String) (o : V) (op : Op)
    (hop : op ≠ .evaluate) : nodeOp env run n op (.logged id x msg) o = run op x o := by
  cases op <;> simp [nodeOp] at hop ⊢

/-! non-vacuity: the cache-off hypothesis is satisfiable and the run terminates -/
def c16Env : Env :=
  { β := fun f a k => .ok (.app f a k), binds := fun _ _ => .error "x", ov := fun _ => default,
    ds := fun _ => default, cacheKind := fun _ => .memory, cacheCtxOff := true }

example : c16Env.cacheCtxOff = true := rfl

/-- non-vacuity of `logging_off_silent`: a logged node under the context manager terminates and its
    event log holds the log *request* only; with the context manager off the same node logs -/
example : (ev { c16Env with logCtxOff := true } 6 .evaluate (.logged 2 (.value 1 (.int 7)) "m") (.dict []) {}).map
    (fun p => p.2.events.any Event.isLog) = some false := by decide +kernel
example : (ev c16Env 6 .evaluate (.logged 2 (.value 1 (.int 7)) "m") (.dict []) {}).map
    (fun p => p.2.events.any Event.isLog) = some true := by decide +kernel
example : (ev c16Env 5 .evaluate (.cached 2 (.value 1 (.int 7)) 0) (.dict []) {}).isSome = true := by decide +kernel

/-! ### The option spellings of the switches are options like any other: references resolve

  `Option("LABREA.CACHE.DISABLED", …)` is evaluated through `Option.evaluate`, which resolves templates: a switch given as
  `"{DEBUG}"` is on exactly when `DEBUG` resolves to a truthy value (a direct dictionary lookup would see the non-empty
  string and switch caching off although the switch is off). -/

theorem resolve_reference_step (n : Nat) (k : String) (o v : V) (r : Except RErr V) (rd : List String)
    (hf : findKeys ("{" ++ k ++ "}") = [k]) (hg : getDotted k o = .found v) (hr : resolveR n v o = some (r, rd)) :
    resolveR (n + 1) (.str ("{" ++ k ++ "}")) o = some (r, k :: rd) := by
  simp [resolveR, hf, hg, hr]

/-- an Option whose value is a whole-string reference `"{K}"` evaluates to what `K` resolves to (here: a value that
    resolves to itself — a boolean, a number, None, a brace-free string), whatever its default -/
theorem option_reference_resolves (env : Env) (hsub : env.subst = Option.none) (n : Nat) (o : V) (id : Nat) (key : String)
    (dflt : Option Expr) (k : String) (d : V)
    (hf : findKeys ("{" ++ k ++ "}") = [k])
    (h1 : getDotted key o = .found (.str ("{" ++ k ++ "}")))
    (h2 : getDotted k o = .found d) (hd : resolveR (n + 1) d o = some (.ok d, [])) (s : St) :
    ∃ s', ev env (n + 3) .evaluate (.option id key dflt Option.none) o s = some (.ok d, s') :=
  (ev_option_present hsub h1 (resolve_reference_step _ k o d _ _ hf h2 hd)).exists s

theorem cache_switch_follows_reference (env : Env) (hoff : env.cacheCtxOff = false) (hsub : env.subst = Option.none)
    (n : Nat) (o : V) (k : String) (d : V)
    (hf : findKeys ("{" ++ k ++ "}") = [k])
    (h1 : getDotted "LABREA.CACHE.DISABLED" o = .found (.str ("{" ++ k ++ "}")))
    (h2 : getDotted k o = .found d) (hd : resolveR (n + 1) d o = some (.ok d, [])) (s : St) :
    ∃ s', cacheDisabled env (ev env (n + 3)) o s = some (.ok d.truthy, s') :=
  (u_cacheDisabled_of hoff (ev_option_present hsub h1 (resolve_reference_step _ k o d _ _ hf h2 hd))).exists s

/-- the second spelling: `LABREA.CACHE.DISABLED` absent, `LABREA.CACHE.DISABLE` a reference -/
theorem cache_switch_second_spelling_follows_reference (env : Env) (hoff : env.cacheCtxOff = false) (hsub : env.subst = Option.none)
    (n : Nat) (o : V) (k : String) (d : V)
    (hf : findKeys ("{" ++ k ++ "}") = [k])
    (h0 : getDotted "LABREA.CACHE.DISABLED" o = .keyErr)
    (h1 : getDotted "LABREA.CACHE.DISABLE" o = .found (.str ("{" ++ k ++ "}")))
    (h2 : getDotted k o = .found d) (hd : resolveR (n + 1) d o = some (.ok d, [])) (s : St) :
    ∃ s', cacheDisabled env (ev env (n + 4)) o s = some (.ok d.truthy, s') :=
  (u_cacheDisabled_of hoff (ev_option_default hsub h0
    (ev_option_present hsub h1 (resolve_reference_step _ k o d _ _ hf h2 hd)))).exists s

theorem effects_switch_follows_reference (env : Env) (hsub : env.subst = Option.none)
    (n : Nat) (o : V) (k : String) (d : V)
    (hf : findKeys ("{" ++ k ++ "}") = [k])
    (h1 : getDotted "LABREA.EFFECTS.DISABLED" o = .found (.str ("{" ++ k ++ "}")))
    (h2 : getDotted k o = .found d) (hd : resolveR (n + 1) d o = some (.ok d, [])) (s : St) :
    ∃ s', ev env (n + 3) .evaluate effectsDisabledOption o s = some (.ok d, s') :=
  option_reference_resolves env hsub n o _ _ _ k d hf h1 h2 hd s

theorem logging_switch_follows_reference (env : Env) (hsub : env.subst = Option.none)
    (n : Nat) (o : V) (k : String) (d : V)
    (hf : findKeys ("{" ++ k ++ "}") = [k])
    (h1 : getDotted "LABREA.LOGGING.DISABLED" o = .found (.str ("{" ++ k ++ "}")))
    (h2 : getDotted k o = .found d) (hd : resolveR (n + 1) d o = some (.ok d, [])) (s : St) :
    ∃ s', ev env (n + 3) .evaluate loggingDisabledOption o s = some (.ok d, s') :=
  option_reference_resolves env hsub n o _ _ _ k d hf h1 h2 hd s

/-- the hypotheses are satisfiable: `{'LABREA': {'CACHE': {'DISABLED': '{DEBUG}'}}, 'DEBUG': False}` — caching is NOT
    disabled -/
example (env : Env) (hoff : env.cacheCtxOff = false) (hsub : env.subst = Option.none) (s : St) :
    ∃ s', cacheDisabled env (ev env 3)
      (.dict [("DEBUG", .bool false), ("LABREA", .dict [("CACHE", .dict [("DISABLED", .str "{DEBUG}")])])]) s
      = some (.ok false, s') :=
  cache_switch_follows_reference env hoff hsub 0 _ "DEBUG" (.bool false) (by decide) (by decide) (by decide) rfl s


/-- an Option whose key is present with a value that resolves to itself (a boolean, a number, None, a brace-free
    string) evaluates to that value, whatever its default -/
theorem option_present_literal (env : Env) (hsub : env.subst = Option.none) (n : Nat) (o : V) (id : Nat) (key : String)
    (dflt : Option Expr) (d : V) (h1 : getDotted key o = .found d) (hd : resolveR (n + 2) d o = some (.ok d, [])) (s : St) :
    ∃ s', ev env (n + 3) .evaluate (.option id key dflt Option.none) o s = some (.ok d, s') :=
  (ev_option_present hsub h1 hd).exists s

/-- **cache_switch_documented_spelling_decides.** Whenever `LABREA.CACHE.DISABLED` is present, it alone decides —
    also when it is falsy and the other spelling `LABREA.CACHE.DISABLE` is truthy (`a or b` would get this wrong). -/
theorem cache_switch_documented_spelling_decides (env : Env) (hoff : env.cacheCtxOff = false) (hsub : env.subst = Option.none)
    (n : Nat) (o : V) (d : V) (h1 : getDotted "LABREA.CACHE.DISABLED" o = .found d)
    (hd : resolveR (n + 2) d o = some (.ok d, [])) (s : St) :
    ∃ s', cacheDisabled env (ev env (n + 3)) o s = some (.ok d.truthy, s') :=
  (u_cacheDisabled_of hoff (ev_option_present hsub h1 hd)).exists s

/-- `{'LABREA': {'CACHE': {'DISABLED': False, 'DISABLE': True}}}`: caching is NOT disabled -/
example (env : Env) (hoff : env.cacheCtxOff = false) (hsub : env.subst = Option.none) (s : St) :
    ∃ s', cacheDisabled env (ev env 3)
      (.dict [("LABREA", .dict [("CACHE", .dict [("DISABLED", .bool false), ("DISABLE", .bool true)])])]) s
      = some (.ok false, s') :=
  cache_switch_documented_spelling_decides env hoff hsub 0 _ (.bool false) (by decide) rfl s

end Labrea
