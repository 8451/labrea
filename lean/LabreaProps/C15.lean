/-
  C15 — threads.  Theorems over `Threads` (lean/LabreaModel/Threads.lean): an interleaving is ANY
  list of (thread, atomic step); no bound on threads, lengths or the schedule.
-/
import LabreaModel.Threads

namespace Labrea.C15
open Labrea.RuntimeSM Labrea.Threads

/-- `thread_local` (non-interference).  For ANY interleaving `sched` from ANY state `s`, the
    observations of thread `t` (and its final slice: slot, saved stacks, allocation counter) are
    those of `t`'s OWN steps run ALONE by the local semantics `lstep` on `t`'s own initial slice.
    The local semantics cannot see any other thread's slot or saved stacks — its only inputs
    besides the slice are the handler tables of existing runtime objects (immutable:
    `handlers_immutable`), the live default table (global by design: `Request.handle`), and, for
    `inherit p`, the parent's current runtime AT THAT STEP (`toLOp` resolves `inherit p` to
    `adopt (cur p)` in the state in which the step executes; `inherit_reads_parent_now`).
    So no enter / exit / current_runtime() / handle() / request of another thread can change which
    handler serves `t`'s requests. -/
theorem thread_local (t : Thread) (sched : Sched) (s : State) :
    obsOf t (runSched sched s).2 = (lrun t (localView t sched s) (slice s t)).2 ∧
    slice (runSched sched s).1 t = (lrun t (localView t sched s) (slice s t)).1 :=
  (lrun_view t sched s).symm

/-- `thread_local_alone`: the same statement with a literal "run alone".  Delete every step of every
    other thread from the interleaving: what `t` observes does not change.  Hypotheses (each is
    necessary): the other threads do not register default handlers (registration is global by
    design); `t`'s own steps are not `inherit` (whose result is, by design, the parent's runtime at
    that step — covered by `thread_local` and `inherit_reads_parent_now`); and `t` names only objects
    it could name when alone: objects that exist in the start state or that it creates itself
    (`Own`), its start slice mentioning only such objects (`ClosedSlice`).  The other threads are
    completely unconstrained otherwise: they may enter, leave, derive from and request through the
    very objects `t` is using. -/
theorem thread_local_alone (t : Thread) (sched : Sched) (s : State)
    (hclosed : ClosedSlice s t (slice s t))
    (hreg : ∀ t' o, (t', o) ∈ sched → t' ≠ t → ∀ ty hh, o ≠ .registerDefault ty hh)
    (hown : ∀ o, (t, o) ∈ sched → (∀ p, o ≠ .inherit p) ∧ ∀ r ∈ opIds o, Own s t r) :
    obsOf t (runSched sched s).2 = obsOf t (runSched (sched.filter (fun st => st.1 == t)) s).2 :=
  (alone_view s t sched s s ⟨rfl, rfl, fun _ _ => rfl, hclosed, fun _ => Nat.le_refl _⟩ hreg hown).2

/-- the frame lemma behind it: one step of another thread leaves `t`'s slice untouched -/
theorem other_thread_step_frame (s : State) (t t' : Thread) (o : Op) (h : t' ≠ t) :
    slice (step s t o).1 t' = slice s t' :=
  step_slice_other s t t' o h

/-- the shared handler tables are immutable: no step of any thread changes the table of an
    existing runtime object -/
theorem handlers_immutable (s : State) (t : Thread) (o : Op) (r : Id) (h : Allocated s r) :
    ((step s t o).1.objs r).handlers = (s.objs r).handlers ∧ Allocated (step s t o).1 r :=
  ⟨step_handlers s t o r h, step_allocated s t o r h⟩

/-- `inherit` gives the worker the runtime its parent has at that very step: whatever the parent
    entered before is seen, whatever it enters or leaves afterwards is not (by `thread_local`) -/
theorem inherit_reads_parent_now (s : State) (t p : Thread) (r : Id) (h : s.cur p = some r) :
    (step s t (.inherit p)).1.cur t = some r ∧
    ∀ ty, (step (step s t (.inherit p)).1 t (.run ty)).2 = serve s.defaults (s.objs r).handlers ty := by
  have h1 : step s t (.inherit p) = ({ s with cur := upd s.cur t (some r) }, .unit) := by
    simp only [step, h]
  have hc : ({ s with cur := upd s.cur t (some r) } : State).cur t = some r := upd_same ..
  rw [h1]
  exact ⟨hc, fun ty => by simp only [step, current_of_some _ t r hc]⟩

/-- `register_all_present`.  With `register` atomic, after ANY interleaving of registrations by
    any threads the table contains every key that was registered (and every key it had before). -/
theorem register_all_present (sched : List (Thread × Key × Val)) (tb : RTable) :
    (∀ t k v, (t, k, v) ∈ sched → ((runReg sched tb).lookup k).isSome) ∧
    (∀ k, (tb.lookup k).isSome → ((runReg sched tb).lookup k).isSome) := by
  refine ⟨fun t k v h => ?_, runReg_keeps sched tb⟩
  rw [runReg_lookup, List.any_eq_true.2 ⟨_, h, beq_self_eq_true k⟩, Bool.true_or]

/-- `register_needs_atomicity`.  If the body were two steps (read the table; write table + entry),
    the interleaving  A.read B.read A.write B.write  loses A's key. -/
theorem register_needs_atomicity :
    ((runReg2 [(0, .read), (1, .read), (0, .write 10 1), (1, .write 20 2)] ⟨[], fun _ => []⟩).table.lookup 10)
      = none := by
  decide

/-- the same four steps without preemption inside a body keep both keys -/
example : ((runReg2 [(0, .read), (0, .write 10 1), (1, .read), (1, .write 20 2)] ⟨[], fun _ => []⟩).table.lookup 10)
    = some 1 := by decide
example : ((runReg [(0, 10, 1), (1, 20, 2)] []).lookup 10).isSome ∧ ((runReg [(0, 10, 1), (1, 20, 2)] []).lookup 20).isSome := by
  decide

/-- `cache_own_value_evicting`.  Threads evaluate one cached dataset, thread `t` with options of
    fingerprint `fp t`; `val f` is the value computed from options with fingerprint `f`.  Between ANY
    two atomic dict operations of the threads the backend may drop ANY entry (a bounded, expiring or
    shared backend).  If the store satisfies the invariant "the entry under `f` is `val f`" and every
    finished thread holds its own value, then after ANY interleaving of thread steps and evictions
    the invariant still holds and every thread that has finished returned `val (fp t)` — the value
    belonging to ITS options; a thread whose entry vanished between its `exists` and its `get` falls
    through to the computation (`Cached.evaluate`: `except CacheGetFailure: pass`). -/
theorem cache_own_value_evicting (val : Fp → Val) (fp : Thread → Fp) (evs : List CEv) (s : CState)
    (hI : Inv val s.store) (hD : ∀ t v, s.pc t = .done v → v = val (fp t)) :
    Inv val (runCacheEv val fp evs s).store ∧
    ∀ t v, (runCacheEv val fp evs s).pc t = .done v → v = val (fp t) := by
  induction evs generalizing s with
  | nil => exact ⟨hI, hD⟩
  | cons e rest ih =>
    cases e with
    | step t => exact ih _ (cstep_inv val fp s t hI hD).1 (cstep_inv val fp s t hI hD).2
    | evict f => exact ih _ (evict_inv val s f hI) hD

/-- `cache_own_value`.  The same for a backend that keeps its entries (`MemoryCache`): ANY
    interleaving of the atomic dict operations of any threads is a history without evictions. -/
theorem cache_own_value (val : Fp → Val) (fp : Thread → Fp) (sched : List Thread) (s : CState)
    (hI : Inv val s.store) (hD : ∀ t v, s.pc t = .done v → v = val (fp t)) :
    Inv val (runCache val fp sched s).store ∧
    ∀ t v, (runCache val fp sched s).pc t = .done v → v = val (fp t) := by
  rw [← runCacheEv_map_step]
  exact cache_own_value_evicting val fp _ s hI hD

/-- every atomic step of every thread preserves the store invariant -/
theorem cache_step_preserves_inv (val : Fp → Val) (fp : Thread → Fp) (s : CState) (t : Thread)
    (hI : Inv val s.store) (hD : ∀ t v, s.pc t = .done v → v = val (fp t)) :
    Inv val (cstep val fp s t).store :=
  (cstep_inv val fp s t hI hD).1

/-- non-vacuity: from the empty cache all threads start; two threads with different fingerprints
    interleaved step by step both finish, each with its own value -/
def c0 : CState := ⟨fun _ => none, fun _ => .start⟩
example : Inv (fun f => f * 100) c0.store ∧ ∀ t v, c0.pc t = .done v → v = (fun f => f * 100) (id t) := by
  constructor
  · intro f v h; cases h
  · intro t v h; cases h
example : (runCache (fun f => f * 100) id [1, 2, 1, 2, 1, 2] c0).pc 1 = .done 100 ∧
          (runCache (fun f => f * 100) id [1, 2, 1, 2, 1, 2] c0).pc 2 = .done 200 := by decide
/-- two threads with the SAME fingerprint: the second finds the entry of the first -/
example : (runCache (fun f => f * 100) (fun _ => 7) [1, 1, 2, 1, 2] c0).pc 2 = .done 700 := by decide

/-- non-vacuity: thread 2 sees the entry of thread 1, the entry is dropped before thread 2 reads it,
    and thread 2 still finishes with its own value (it recomputes and stores it again) -/
example : (runCacheEv (fun f => f * 100) (fun _ => 7)
            [.step 1, .step 1, .step 1, .step 2, .evict 7, .step 2, .step 2, .step 2] c0).pc 2 = .done 700 := by
  decide

/-- `fall_through_needed`: the fall-through is what the statement rests on.  With a `get` that
    propagates its miss after `exists` said True, the same history fails in thread 2, while every
    history without an eviction runs exactly as before (`strict_agrees_without_eviction`). -/
theorem fall_through_needed :
    (runStrictEv (fun f => f * 100) (fun _ => 7)
      [.step 1, .step 1, .step 1, .step 2, .evict 7, .step 2] c0).isNone = true := by decide

/-- `strict_agrees_without_eviction`: on every history WITHOUT evictions (from any state in which an
    entry a thread has seen is present — the empty cache `c0` in particular) the variant without the
    fall-through runs exactly like the code: the two differ only where the backend loses an entry
    between `exists` and `get`, which is why no history over `MemoryCache` alone tells them apart. -/
theorem strict_agrees_without_eviction (val : Fp → Val) (fp : Thread → Fp) (sched : List Thread) (s : CState)
    (h : Seen fp s) :
    runStrictEv val fp (sched.map CEv.step) s = some (runCache val fp sched s) :=
  runStrict_of_seen val fp sched s h

example (fp : Thread → Fp) : Seen fp c0 := by intro t h; cases h

def s0 : State := ⟨[], fun _ => ⟨[], fun _ => []⟩, fun _ => 0, fun _ => none⟩
/-- default 7 ↦ 70; thread 0 creates a runtime (0,0) overriding 7 ↦ 71 -/
def s1 : State := (step (step s0 0 (.registerDefault 7 70)).1 0 (.new [(7, 71)])).1

/-- thread 0 enters the shared object, thread 1 enters it too and requests, thread 0 leaves,
    thread 2 requests, thread 3 inherits from 1 (inside its block) and requests -/
def sched1 : Sched :=
  [(0, .enter (0, 0)), (1, .enter (0, 0)), (1, .run 7), (0, .exit (0, 0)), (0, .run 7), (2, .run 7),
   (3, .inherit 1), (1, .exit (0, 0)), (3, .run 7), (1, .run 7)]

example : obsOf 0 (runSched sched1 s1).2 = [.unit, .unit, .served 70] := by decide
example : obsOf 1 (runSched sched1 s1).2 = [.unit, .served 71, .unit, .served 70] := by decide
example : obsOf 2 (runSched sched1 s1).2 = [.served 70] := by decide
example : obsOf 3 (runSched sched1 s1).2 = [.unit, .served 71] := by decide

/-- the hypotheses of `thread_local_alone` are satisfiable: in `s1` no thread has a runtime or a
    saved stack, (0,0) exists, and threads 0, 1, 2 of `sched1` name only (0,0) and never inherit -/
example : ∀ t, ClosedSlice s1 t (slice s1 t) := by
  intro t
  constructor
  · intro r h; simp [slice, s1, s0, step, alloc] at h
  · intro r' r h
    simp only [slice, s1, s0, step, alloc] at h
    by_cases e : r' = (0, 0)
    · subst e; simp at h
    · simp [e] at h
example : Own s1 1 (0, 0) := Or.inr (by decide)
example : obsOf 1 (runSched sched1 s1).2 = obsOf 1 (runSched (sched1.filter (fun st => st.1 == 1)) s1).2 := by
  decide

/-- The OLD code (one `previous` field per object, F4): A enters r, B enters r, A leaves — A's slot
    now holds what B saved, not A's own prior runtime: B's block changed A's handler context. -/
def oldAB : OldState := ⟨fun t => if t = 0 then .some (0, 0) else if t = 1 then .some (1, 0) else .unset, fun _ => none⟩
theorem old_not_thread_local :
    (exitOld (enterOld (enterOld oldAB 0 (0, 5)) 1 (0, 5)) 0 (0, 5)).cur 0 ≠ oldAB.cur 0 := by
  decide
/-- … whereas without B's step A's slot is restored -/
example : (exitOld (enterOld oldAB 0 (0, 5)) 0 (0, 5)).cur 0 = oldAB.cur 0 := by decide

end Labrea.C15
