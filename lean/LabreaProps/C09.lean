/-
  C09 — templates substitute options and parameters transitively and report their reads.
-/
import LabreaModel.MonadLemmas
import LabreaModel.ResolveLemmas
import LabreaModel.Eval
namespace Labrea

/-- **template_subst.** A Template evaluates to `str(resolve(text, options overlaid by {":name:": value}))`:
    parameters are evaluated under the same options first, in declaration order. -/
theorem template_evaluate (run : Run) (n id : Nat) (t : String) (params : List (String × Expr)) (o : V)
    (hp : ((findKeys t).filter isParamKey).all (fun k => params.any fun p => ":" ++ p.1 ++ ":" == k) = true) :
    templateOp run n id t params .evaluate o =
      (do
        let ps ← mapM' (fun (p : String × Expr) => do
          let v ← run .evaluate p.2 o
          pure (":" ++ p.1 ++ ":", v)) params
        let v ← resolveM n id (.str t) (mix o (.dict ps)) false
        pure (.str (pyStr v))) := by
  -- the check of `Template.__init__` passes: every `{:name:}` the text requires is supplied
  have : ((findKeys t).filter isParamKey).any (fun k => !(params.any fun p => ":" ++ p.1 ++ ":" == k)) = false := by
    rw [List.any_eq_false]
    intro k hk
    simp [List.all_eq_true.mp hp k hk]
  simp [templateOp, this]

/-- the resolution of text under options depends on the options only through the keys in its read log
    (transitively resolved references included): any dictionary that answers those lookups alike gives the
    same text -/
theorem resolve_depends_only_on_reads (o o' : V) (n : Nat) (x : V) (r : Except RErr V) (rd : List String)
    (h : resolveR n x o = some (r, rd)) (ha : ∀ k ∈ rd, getDotted k o' = getDotted k o) :
    resolveR n x o' = some (r, rd) :=
  resolveR_congr o o' n x r rd h ha

/-- a text without template keys resolves to itself with escaped braces left literal, and reads nothing -/
theorem resolve_plain_text (n : Nat) (s : String) (o : V) (h : findKeys s = []) :
    resolveR (n + 1) (.str s) o = some (.ok (.str (unescape s)), []) := by
  simp [resolveR, h]

/-- a whole-string reference `{K}` keeps the type of the value it refers to and resolves it transitively;
    its read log starts with `K` -/
theorem resolve_whole_reference (n : Nat) (k : String) (o v : V) (r : Except RErr V) (rd : List String)
    (hf : findKeys ("{" ++ k ++ "}") = [k]) (hg : getDotted k o = .found v) (hr : resolveR n v o = some (r, rd)) :
    resolveR (n + 1) (.str ("{" ++ k ++ "}")) o = some (r, k :: rd) := by
  simp [resolveR, hf, hg, hr]

/-- a reference to a missing key fails with that key -/
theorem resolve_missing_key (n : Nat) (k : String) (o : V)
    (hf : findKeys ("{" ++ k ++ "}") = [k]) (hg : getDotted k o = .keyErr) :
    resolveR (n + 1) (.str ("{" ++ k ++ "}")) o = some (.error (.key k), [k]) := by
  simp [resolveR, hf, hg]

/-- `keys()` / `explain()` of a Template are the union of its parameters' keys and, for every plain `{KEY}`,
    the keys of `Option(KEY)` — which follow the value stored under `KEY` transitively -/
theorem template_keys_structure (run : Run) (n id : Nat) (t : String) (o : V) (op : Op) (h : op = .keys ∨ op = .explain)
    (hp : (findKeys t).filter isParamKey = []) :
    templateOp run n id t [] op o =
      (do
        let ks ← mapM' (fun (p : String × Nat) =>
          handle (run op (.option (tid id (8 + p.2)) p.1 Option.none Option.none) o) fun err =>
            match err with
            | f :: _ => if err.isKeyNotFound then raise (keyNotFound id f.key :: err) else raise err
            | [] => raise err)
          ((findKeys t).filter fun k => !isParamKey k).zipIdx
        pure (unionV (unionAll []) (unionAll ks))) := by
  -- no parameter is required and none is given; what is left of `templateOp` is the right-hand side up to the name of
  -- the auxiliary `match`, hence `rfl`
  rcases h with rfl | rfl <;>
    simp only [templateOp, hp, List.any_nil, Bool.false_eq_true, if_false, mapM', M.pure_bind] <;> rfl

/-- an Option whose value is templated at any nesting depth reports the keys of every templated string
    inside it: `keys` of a present Option = its own key ∪ domain keys ∪ ⋃ Template(text).keys over
    `_templated_strings(value)` -/
theorem templatedStrings_nested :
    templatedStrings (.dict [("a", .list [.str "{X}", .dict [("p", .str "{Y}/{Z}")]]), ("b", .int 1)]) = ["{X}", "{Y}/{Z}"] := by
  decide +kernel

/-! ### known finding F26 (kernel-evaluated): an option value that refers to a template parameter is
    substituted by `evaluate` (the parameters are part of the options `resolve` sees) while `keys` raises
    ValueError: the transient Template built from the option's value "requires parameters" -/
def c09Env : Env :=
  { β := fun f a k => .ok (.app f a k), binds := fun _ _ => .error "x", ov := fun _ => default, ds := fun _ => default,
    cacheKind := fun _ => .memory }

def f26Template : Expr := .template 2 "{:n:} -> {PATTERN}" [("n", .option 1 "N" Option.none Option.none)]
def f26Options : V := .dict [("N", .int 7), ("PATTERN", .str "part-{:n:}.csv")]

theorem keys_fail_where_substitution_succeeds_F26 :
    (match ev c09Env 20 .evaluate f26Template f26Options {} with
      | some (.ok v, _) => decide (v = .str "7 -> part-7.csv")
      | _ => false) = true ∧
    (match ev c09Env 20 .keys f26Template f26Options {} with
      | some (.error err, _) => decide (err = errOther "ValueError")
      | _ => false) = true := by
  constructor <;> decide +kernel

/-! ### the scanner agrees with the regex on the documented shapes (kernel-evaluated) -/
example : findKeys "a{A}b{S.X}c" = ["A", "S.X"] := by decide +kernel
example : findKeys "\\{A\\} {:p:} {A}{A}" = [":p:", "A"] := by decide +kernel
example : findKeys "{a{b}" = ["a{b"] := by decide +kernel
example : unescape "\\{A\\}" = "{A}" := by decide +kernel
example : isParamKey ":name_1:" = true ∧ isParamKey "a.b" = false ∧ isParamKey ":a.b:" = false := by decide +kernel

example : (resolveR 10 (.str "x{P}") (.dict [("P", .str "{Q}!"), ("Q", .str "{A}"), ("A", .int 7)])).map Prod.snd
    = some ["P", "Q", "A"] := by decide +kernel

end Labrea
