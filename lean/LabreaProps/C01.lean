/-
  C01 — caching is transparent: cached graphs return what uncached evaluation returns.

  FULL STATEMENT (kept visible; it is FALSE of the current tree, see the witnesses below):
    for every program e, every finite history o₁ … oₖ evaluated on one long-lived state, and every i,
    the outcome of the i-th evaluation equals the outcome of evaluating e on oᵢ with caching switched off.

  What is proved here, for every environment / expression / options / state / fuel:
    * the cache discipline of `Cached.evaluate`: a hit returns the stored entry without evaluating the inner
      expression; a miss evaluates it and stores the value under the fingerprint; a failure stores nothing;
      a store is found again under the same fingerprint and disturbs no other entry (CacheLemmas);
    * the fingerprint is a function of the reported keys and their values alone (C03);
    * with caching switched off the store is never read or written (C16) — so the reference evaluation the
      property compares with is state-independent;
    What is missing for the full statement is fingerprint soundness of every inner expression ("equal
    fingerprints ⇒ equal outcomes"): it fails at the catch positions of `coalesce` and `switch` (known
    findings F18, F19) and for brace re-substitution (F22) — the negation of the full statement is proved
    below from concrete histories, and the full statement is proved under exactly that hypothesis
    (`cache_transparent_of_fingerprint_sound` below, for all histories, from `history_transparent` of
    `LabreaModel/CacheTransparency.lean`: an invariant on the store).
-/
import LabreaModel.CacheLemmas
import LabreaModel.EvalLemmas
import LabreaModel.CacheTransparency
import LabreaModel.DatasetTransparency
namespace Labrea

variable (env : Env) (run : Run) (x : Expr) (c : Nat) (o : V)

/-- **hit.** When the existence request says yes and the get request answers `v`, `Cached.evaluate` returns `v`
    and the inner expression is not evaluated. -/
theorem hit_returns_stored (s s1 s2 : St) (v : V) (he : existsReq env run x c o s = some (.ok true, s1))
    (hg : getReq env run x c o s1 = some (.ok v, s2)) :
    cachedOp env run x c .evaluate o s = some (.ok v, s2) :=
  cached_hit env run x c o s s1 s2 v he hg

/-- **miss.** Otherwise the inner expression is evaluated and its value goes through the set request. -/
theorem miss_computes_and_stores (s s1 : St) (he : existsReq env run x c o s = some (.ok false, s1)) :
    cachedOp env run x c .evaluate o s = (do let v ← run .evaluate x o; setReq env run x c o v) s1 :=
  cached_miss env run x c o s s1 he

/-- a failed evaluation issues no set request: nothing is stored by the failing node -/
theorem failure_stores_nothing (s s1 s2 : St) (err : Err) (he : existsReq env run x c o s = some (.ok false, s1))
    (hx : run .evaluate x o s1 = some (.error err, s2)) :
    cachedOp env run x c .evaluate o s = some (.error err, s2) :=
  cached_failure_stores_nothing env run x c o s s1 s2 err he hx

/-- what a `get` of the memory backend returns was stored under the node's fingerprint (never fabricated) -/
theorem get_returns_stored_entry (hk : env.cacheKind c = .memory) (s s' : St) (v : V)
    (h : backendGet env run x c o s = some (.ok v, s')) :
    ∃ (fp : V) (s1 : St), fingerprintOf run x o s = some (.ok fp, s1) ∧ entryLookup fp (s1.cacheEntries c) = some v :=
  memory_get_from_store env run x c o hk s s' v h

/-- the value stored under a fingerprint is the one found again under it -/
theorem stored_value_is_found (s : St) (fp v : V) :
    entryLookup fp ((s.setCacheEntries c (entryInsert fp v (s.cacheEntries c))).cacheEntries c) = some v :=
  store_then_lookup s c fp v

/-- and a store disturbs no entry under another fingerprint -/
theorem store_frame (s : St) {fp fp' : V} (h : fp' ≠ fp) (v : V) :
    entryLookup fp' ((s.setCacheEntries c (entryInsert fp v (s.cacheEntries c))).cacheEntries c) =
      entryLookup fp' (s.cacheEntries c) :=
  store_keeps_others s c h v

/-- with caching switched off, evaluation never looks at the store: the reference evaluation the property
    compares with is independent of everything evaluated earlier -/
theorem uncached_ignores_store {env : Env} (hoff : env.cacheCtxOff = true) (n : Nat) (op : Op) (e : Expr) (o : V)
    (s : St) (r : Except Err V) (s' : St) (h : ev env n op e o s = some (r, s')) :
    s'.caches = s.caches ∧ s'.scripts = s.scripts :=
  ev_ctxOff_sameStore hoff n op e o s r s' h

/-! ### the full statement is false on the current tree: concrete histories (kernel-evaluated) -/

def c01Env (off : Bool) : Env :=
  { β := fun f a _ => if f = "neg" then (match a with | [.int i] => .ok (.int (-i)) | _ => .error "TypeError")
                      else if f = "mayfail" then (match a with | [.int 1] => .error "ValueError" | _ => .ok (.str "k"))
                      else .error "TypeError",
    binds := fun _ _ => .error "x", ov := fun _ => default, ds := fun _ => default, cacheKind := fun _ => .memory,
    cacheCtxOff := off }

/-- evaluate a history on one long-lived state; return the outcomes -/
def history (env : Env) (e : Expr) : List V → St → List (Option (Except Err V))
  | [], _ => []
  | o :: os, s =>
    match ev env 40 .evaluate e o s with
    | Option.none => [Option.none]
    | some (r, s') => some r :: history env e os s'

/-- `cached(coalesce(switch('D', {1: Option('Q')}, Option('B') >> neg), Option('B')))` -/
def f18Cached : Expr :=
  .cached 10 (.coalesce 9 [ .switch 5 (.option 1 "D" Option.none Option.none) [(.int 1, .option 2 "Q" Option.none Option.none)]
                  (some (.apply 4 (.option 3 "B" Option.none Option.none) (.value 6 (.fn "neg" [] [])))),
                .option 7 "B" Option.none Option.none ]) 0

def isOk (r : Option (Except Err V)) (v : V) : Bool := match r with | some (.ok w) => decide (w = v) | _ => false

/-- **known finding F18.** `{B:5}` then `{D:1,B:5}`: the cached graph returns −5, the uncached one 5. -/
theorem c01_fails_coalesce :
    (match history (c01Env false) f18Cached [.dict [("B", .int 5)], .dict [("D", .int 1), ("B", .int 5)]] {} with
      | [a, b] => isOk a (.int (-5)) && isOk b (.int (-5))
      | _ => false) = true ∧
    (match history (c01Env true) f18Cached [.dict [("B", .int 5)], .dict [("D", .int 1), ("B", .int 5)]] {} with
      | [a, b] => isOk a (.int (-5)) && isOk b (.int 5)
      | _ => false) = true := by
  constructor <;> decide +kernel

/-- `cached(coalesce(Option('K', 'auto', domain=['fast', 'exact']), Option('K2')))` -/
def f31Cached : Expr :=
  .cached 7 (.coalesce 6 [ .option 3 "K" (some (.value 1 (.str "auto"))) (some (.value 2 (.list [.str "fast", .str "exact"]))),
                .option 5 "K2" Option.none Option.none ]) 0

/-- **known finding F31.** `{K2:'fast'}` then `{K2:'exact'}`: the first member validates (a default is not checked
    against the domain) and reports no keys, evaluation rejects the default and reads `K2`: the cached graph returns
    `'fast'` twice, the uncached one `'fast'` then `'exact'`. -/
theorem c01_fails_default_outside_domain_F31 :
    (match history (c01Env false) f31Cached [.dict [("K2", .str "fast")], .dict [("K2", .str "exact")]] {} with
      | [a, b] => isOk a (.str "fast") && isOk b (.str "fast")
      | _ => false) = true ∧
    (match history (c01Env true) f31Cached [.dict [("K2", .str "fast")], .dict [("K2", .str "exact")]] {} with
      | [a, b] => isOk a (.str "fast") && isOk b (.str "exact")
      | _ => false) = true := by
  constructor <;> decide +kernel

/-- `cached(switch(Option('M','x') >> mayfail, {'k': 1}, 2))` -/
def f19Cached : Expr :=
  .cached 8 (.switch 5 (.apply 3 (.option 1 "M" (some (.value 2 (.str "x"))) Option.none) (.value 4 (.fn "mayfail" [] [])))
    [(.str "k", .value 6 (.int 1))] (some (.value 7 (.int 2)))) 0

/-- **known finding F19.** `{M:1}` (dispatch fails → default 2, stored under the empty fingerprint) then `{}`
    (dispatch succeeds → 1 uncached, but the cached graph returns the stored 2). -/
theorem c01_fails_switch_dispatch :
    (match history (c01Env false) f19Cached [.dict [("M", .int 1)], .dict []] {} with
      | [a, b] => isOk a (.int 2) && isOk b (.int 2)
      | _ => false) = true ∧
    (match history (c01Env true) f19Cached [.dict [("M", .int 1)], .dict []] {} with
      | [a, b] => isOk a (.int 2) && isOk b (.int 1)
      | _ => false) = true := by
  constructor <;> decide +kernel

/-- and a history on which transparency does hold: a dispatch value, a templated reference, a sibling inside a
    section (the situations the property names) each change the outcome of the cached graph too -/
def c01Good : Expr :=
  .cached 9 (.switch 5 (.option 1 "K" Option.none Option.none) [(.str "x", .option 2 "P" Option.none Option.none)]
    (some (.option 3 "S" Option.none Option.none))) 0

theorem c01_good_history :
    (history (c01Env false) c01Good
        [.dict [("K", .str "x"), ("P", .str "{A}"), ("A", .int 1)], .dict [("K", .str "x"), ("P", .str "{A}"), ("A", .int 2)],
         .dict [("K", .str "y"), ("S", .dict [("X", .int 1)])], .dict [("K", .str "y"), ("S", .dict [("X", .int 1), ("Y", .int 2)])]] {}).map
      (fun r => match r with | some (.ok v) => some v | _ => Option.none)
    = [some (.int 1), some (.int 2), some (.dict [("X", .int 1)]), some (.dict [("X", .int 1), ("Y", .int 2)])] := by
  decide +kernel


/-! ### The full statement, reduced to fingerprint soundness -/

/-- **cache_transparent_of_fingerprint_sound.** Let `x` be a node cached in a `MemoryCache`, with caching switched on,
    whose `keys()` succeed on the dictionaries `D` of a history with fingerprint `fp o`, whose uncached outcome is
    `den o`, and whose sub-computations leave the entries of its cache alone.  If equal fingerprints imply equal
    outcomes, then after ANY finite history of evaluations on dictionaries of `D` — any order, any repetitions, one
    long-lived store that satisfied the invariant at the start (e.g. was empty) — the next evaluation returns `den o`:
    exactly what evaluation with caching switched off returns.  "Regardless of what was evaluated earlier" is the
    quantification over `hist`. -/
theorem cache_transparent_of_fingerprint_sound {env : Env} {run : Run} {x : Expr} {c : Nat} {D : V → Prop}
    {fp : V → V} {den : V → Except Err V} (H : FingerprintSound env run x c D fp den)
    (hist : List V) (hD : ∀ o ∈ hist, D o) (s : St) (hempty : s.cacheEntries c = [])
    (o : V) (ho : D o) (s1 : St)
    (hs : (hist.foldl (fun (st : Option St) oi => st.bind fun t =>
        (cachedOp env run x c .evaluate oi t).map Prod.snd) (some s)) = some s1)
    (r : Except Err V) (s2 : St) (h : cachedOp env run x c .evaluate o s1 = some (r, s2)) : r = den o :=
  cached_history_transparent H hist hD s (storeInv_empty c D fp den s hempty) o ho s1 hs r s2 h

/-! ### An unconditional instance: `cached(Option(key))`, every key, every history

  The hypotheses of the reduction hold of `Option(key)` under the real interpreter for EVERY dotted key, every node id,
  every fuel ≥ 3 and every state, on the dictionaries that hold an integer under the key (and do not set the library's
  cache switches).  Hence: for any such key and any finite history of such dictionaries evaluated on one long-lived
  store, `cached(Option(key))` returns exactly what evaluation with caching switched off returns. -/
namespace C01Option

def gEnv : Env :=
  { β := fun f a k => .ok (.app f a k), binds := fun _ _ => .error "x", ov := fun _ => default, ds := fun _ => default,
    cacheKind := fun _ => .memory }

/-- the dictionaries: the option holds an integer, the library's cache switches are not set -/
def DInt (key : String) (o : V) : Prop :=
  (∃ i, getDotted key o = .found (.int i)) ∧ getDotted "LABREA.CACHE.DISABLED" o = .keyErr ∧
    getDotted "LABREA.CACHE.DISABLE" o = .keyErr

def vOf (key : String) (o : V) : V := match getDotted key o with | .found v => v | _ => .none

theorem option_fingerprint_sound (key : String) (id n : Nat) :
    FingerprintSound gEnv (ev gEnv (n + 3)) (.option id key Option.none Option.none) 0 (DInt key)
      (fun o => .list [.dict [(key, vOf key o)]]) (fun o => .ok (vOf key o)) := by
  have hv : ∀ {o i}, getDotted key o = .found (.int i) → vOf key o = .int i := fun h => by simp [vOf, h]
  refine FpHyp.memory (.of_U (fun o ho => u_cacheDisabled rfl rfl ho.2.1 ho.2.2) ?_ ?_ ?_) rfl
  · rintro o ⟨⟨i, hi⟩, _⟩
    rw [hv hi]
    exact u_fingerprint_single (ev_option_keys hi rfl) (by simp [keyStrings, keySet, dedup, V.setElems]) hi
  · rintro o ⟨⟨i, hi⟩, _⟩
    rw [hv hi]
    exact ev_option_present rfl hi rfl
  · intro o o' _ _ h
    simp only [V.list.injEq, List.cons.injEq, V.dict.injEq, Prod.mk.injEq, true_and, and_true] at h
    rw [h]

/-- **cached_option_transparent.** For every key, every finite history `hist` of dictionaries holding an integer under
    it, evaluated one after the other on one store that was empty at the start, and every further such dictionary
    `o`: the evaluation of `cached(Option(key))` on `o` returns the option's value in `o` — whatever was evaluated
    before. -/
theorem cached_option_transparent (key : String) (id n : Nat) (hist : List V) (hD : ∀ o ∈ hist, DInt key o)
    (s : St) (hempty : s.cacheEntries 0 = []) (o : V) (ho : DInt key o) (s1 : St)
    (hs : (hist.foldl (fun (st : Option St) oi => st.bind fun t =>
        (cachedOp gEnv (ev gEnv (n + 3)) (.option id key Option.none Option.none) 0 .evaluate oi t).map Prod.snd) (some s)) = some s1)
    (r : Except Err V) (s2 : St)
    (h : cachedOp gEnv (ev gEnv (n + 3)) (.option id key Option.none Option.none) 0 .evaluate o s1 = some (r, s2)) :
    r = .ok (vOf key o) :=
  cache_transparent_of_fingerprint_sound (option_fingerprint_sound key id n) hist hD s hempty o ho s1 hs r s2 h

end C01Option

/-! non-vacuity: the hypotheses hold of a real node under the real interpreter — `cached(Option('A'))` on the
    dictionaries `{'A': i}`, any fuel ≥ 3, every state -/
namespace C01NonVacuity
def c01tEnv : Env :=
  { β := fun f a k => .ok (.app f a k), binds := fun _ _ => .error "x", ov := fun _ => default, ds := fun _ => default,
    cacheKind := fun _ => .memory }
def oA (i : Int) : V := .dict [("A", .int i)]
def xA : Expr := .option 1 "A" Option.none Option.none
theorem sk1 : splitKey "LABREA.CACHE.DISABLED" = ["LABREA", "CACHE", "DISABLED"] := by decide +kernel
theorem sk2 : splitKey "LABREA.CACHE.DISABLE" = ["LABREA", "CACHE", "DISABLE"] := by decide +kernel
theorem sk3 : splitKey "A" = ["A"] := by decide +kernel
theorem si1 : segIndex? "LABREA" = none := by decide +kernel
theorem si2 : segIndex? "A" = none := by decide +kernel
theorem gd1 (i : Int) : getDotted "LABREA.CACHE.DISABLED" (oA i) = .keyErr := by
  simp [getDotted, oA, sk1, walk, step, si1, alookup]
theorem gd2 (i : Int) : getDotted "LABREA.CACHE.DISABLE" (oA i) = .keyErr := by
  simp [getDotted, oA, sk2, walk, step, si1, alookup]
theorem gd3 (i : Int) : getDotted "A" (oA i) = .found (.int i) := by
  simp [getDotted, oA, sk3, walk, step, si2, alookup]

def vA (o : V) : V := match getDotted "A" o with | .found v => v | _ => .none

/-- the instance `key = "A"` of `C01Option.option_fingerprint_sound`, on fewer dictionaries -/
theorem optionA_fingerprint_sound (n : Nat) :
    FingerprintSound c01tEnv (ev c01tEnv (n + 3)) xA 0 (fun o => ∃ i, o = oA i)
      (fun o => .list [.dict [("A", vA o)]]) (fun o => .ok (vA o)) :=
  (C01Option.option_fingerprint_sound "A" 1 n).mono (by rintro o ⟨i, rfl⟩; exact ⟨⟨i, gd3 i⟩, gd1 i, gd2 i⟩)

end C01NonVacuity


/-! ### An unconditional instance for a real dataset

  `@dataset def d(p = Option(key)): return body(p=p)` (no dispatch, no effects, identity callback, MemoryCache): the node
  its cache wraps is `dsInner` — `Logged(Computation(Apply(Overloaded, Pipeline()), []))` — and the hypotheses of the
  reduction are PROVED for it (`dataset_fingerprint_sound`, DatasetTransparency.lean) under the real interpreter, for
  every key, parameter name, body, environment of that shape, fuel and state. -/

/-- **dataset_cache_transparent.** For every dataset of that shape and every finite history of dictionaries holding an
    integer under its key (library switches unset), evaluated one after the other on one long-lived store that was
    empty at the start: the next evaluation of the dataset's cached node returns `body(p = o[key])` — exactly the
    uncached outcome — whatever was evaluated before, in whatever order, however often. -/
theorem dataset_cache_transparent {env : Env} {ovid cid : Nat} {key pname body : String} {out : Int → V}
    (H : SimpleDataset env ovid cid key pname body out) (hk : env.cacheKind cid = .memory) (n id : Nat) (msg : String)
    (hist : List V) (hD : ∀ o ∈ hist, DsDict key o) (s : St) (hempty : s.cacheEntries cid = [])
    (o : V) (ho : DsDict key o) (s1 : St)
    (hs : (hist.foldl (fun (st : Option St) oi => st.bind fun t =>
        (cachedOp env (ev env (n + 9)) (dsInner id ovid msg) cid .evaluate oi t).map Prod.snd) (some s)) = some s1)
    (r : Except Err V) (s2 : St)
    (h : cachedOp env (ev env (n + 9)) (dsInner id ovid msg) cid .evaluate o s1 = some (r, s2)) :
    r = .ok (out (intOf key o)) :=
  cache_transparent_of_fingerprint_sound (dataset_fingerprint_sound H hk n id msg) hist hD s hempty o ho s1 hs r s2 h

/-- **total version.** From every store satisfying the invariant (the empty one; any store reached by a history of such
    evaluations) the evaluation TERMINATES, with the uncached outcome, in a store satisfying the invariant again. -/
theorem cache_transparent_total {env : Env} {run : Run} {x : Expr} {c : Nat} {D : V → Prop}
    {fp : V → V} {den : V → Except Err V} (H : FingerprintSound env run x c D fp den) (o : V) (ho : D o) (s : St)
    (hinv : StoreInv c D fp den s) :
    ∃ s', cachedOp env run x c .evaluate o s = some (den o, s') ∧ StoreInv c D fp den s' :=
  cached_evaluate_total H.hyp o ho s hinv

/-- for the dataset family: every evaluation of the dataset's cached node terminates with `body(p = o[key])` -/
theorem dataset_evaluation_total {env : Env} {ovid cid : Nat} {key pname body : String} {out : Int → V}
    (H : SimpleDataset env ovid cid key pname body out) (hk : env.cacheKind cid = .memory) (n id : Nat) (msg : String)
    (o : V) (ho : DsDict key o) (s : St)
    (hinv : StoreInv cid (DsDict key) (fun o => .list [.dict [(key, .int (intOf key o))]]) (fun o => .ok (out (intOf key o))) s) :
    ∃ s', cachedOp env (ev env (n + 9)) (dsInner id ovid msg) cid .evaluate o s = some (.ok (out (intOf key o)), s') :=
  let ⟨s', h, _⟩ := cache_transparent_total (dataset_fingerprint_sound H hk n id msg) o ho s hinv
  ⟨s', h⟩

namespace C01Dataset
/-- a concrete environment of that shape: the body is the opaque user function `load`, the parameter `n` reads `A` -/
def dEnv : Env :=
  { β := fun f a k => .ok (.app f a k), binds := fun _ _ => .error "x",
    ov := fun _ => { dispatch := .value 20 .missing, table := [], dflt := some (dsBody "A" "n" "load") },
    ds := fun _ => default, cacheKind := fun _ => .memory }

theorem dEnv_simple : SimpleDataset dEnv 1 0 "A" "n" "load" (fun i => .app "load" [] [("n", .int i)]) where
  subst := rfl
  logOn := rfl
  cacheOn := rfl
  ov := rfl
  β := fun _ => rfl

open C01NonVacuity in
theorem dDict (i : Int) : DsDict "A" (oA i) where
  int := ⟨i, gd3 i⟩
  c1 := gd1 i
  c2 := gd2 i
  l := by simp [getDotted, oA, show splitKey "LABREA.LOGGING.DISABLED" = ["LABREA", "LOGGING", "DISABLED"] by decide +kernel,
    walk, step, si1, alookup]
  e := by simp [getDotted, oA, show splitKey "LABREA.EFFECTS.DISABLED" = ["LABREA", "EFFECTS", "DISABLED"] by decide +kernel,
    walk, step, si1, alookup]
end C01Dataset

end Labrea
