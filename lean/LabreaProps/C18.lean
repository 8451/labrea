/-
  C18 — every core operation is an interceptable request (class-creation part).

  The four `__init_subclass__` hooks of labrea/types.py, abstracted in `LabreaModel.Hook`.

  FULL-STRENGTH STATEMENT (what one would like, and what is FALSE of the code without premises):
    for EVERY chain of class bodies built by successive subclassing from the hook roots, for each of
    the four methods `m`: the attribute `m` found on the class is a wrapper issuing `Request_m`, and
    `__labrea_m__` found on the class is the most-derived user implementation of `m`.
  It fails in three ways (witnesses `premise_*_needed` below, all reproduced on the real
  code by the correspondence check):
    (a) a body binds `m` to a function that carries the marker without being a wrapper for `m`
        (marker set by hand, or the wrapper of another method): the hook skips it;
    (b) a body binds `m` to a genuine wrapper taken from a class whose implementation is not the
        one the new class inherits (`evaluate = Other.evaluate`): the hook skips it, the slot stays
        the inherited one, so the default handler does NOT run `Other`'s code;
    (c) a direct subclass of a root defines `__labrea_m__` but not `m`: the hook overwrites the
        slot with the root's abstract method.
  `hook_total` is the statement under the side conditions `ChainOK`, which exclude (a)–(c);
  `hook_marker_unconditional` is the part that holds with no side condition at all.
-/
import LabreaModel.HookLemmas
import LabreaModel.Generated.ClassTable

namespace Labrea.Hook

/-- For every base MRO `w0` whose ancestors hook `m` and every non-empty chain of class bodies
    (any length, any choice of what each body defines) satisfying the side conditions, on the most
    derived class: the attribute is the request-issuing wrapper for `m` and the slot is the
    most-derived user implementation. -/
theorem hook_total (m : Meth) (w0 : MRO) (r0 : Option Fn) (b : Body) (bs : List Body)
    (hroot : hooked w0 m = true) (hbase : Inv m w0 r0)
    (hok : ChainOK m (wrappedAt m w0) r0 (b :: bs)) :
    lookupAttr m (build w0 (b :: bs)) = some (.wrapper m) ∧
    lookupSlot m (build w0 (b :: bs)) = intended m r0 (b :: bs) := by
  induction bs generalizing w0 r0 b with
  | nil => exact step_ok m w0 r0 b hroot hbase hok.1
  | cons b' bs ih =>
    -- the class just created is in the wrapped state: `Inv` again, now with `wrappedAt = true`
    obtain ⟨ha, hs⟩ := step_ok m w0 r0 b hroot hbase hok.1
    exact ih (extend w0 b) _ b' (hooked_extend w0 b m hroot) ((inv_iff m _ _).2 (.inl ⟨ha, hs⟩))
      ((wrappedAt_iff m _).2 ha ▸ hok.2)

/-- non-vacuity: `Evaluatable` ← A(def all) ← B(def evaluate) ← C(nothing) ← D(`evaluate = C.evaluate`) -/
example :
    let bs := [defBody 100 Meth.all, defBody 101 [.evaluate], defBody 102 [],
               oneBody 103 .evaluate (.alias (some (.user 101 .evaluate)) .evaluate)]
    hooked stdEvaluatable .evaluate = true ∧
    Inv .evaluate stdEvaluatable (some (.user 4 .evaluate)) ∧
    ChainOK .evaluate (wrappedAt .evaluate stdEvaluatable) (some (.user 4 .evaluate)) bs ∧
    lookupSlot .evaluate (build stdEvaluatable bs) = some (.user 101 .evaluate) ∧
    lookupSlot .keys (build stdEvaluatable bs) = some (.user 100 .keys) := by decide +kernel

/-- The marker part needs no side condition: whatever the bodies do, the attribute found on a
    hooked class carries the marker (so a re-run of the hook never wraps twice). -/
theorem hook_marker_unconditional (m : Meth) (w0 : MRO) (b : Body) (bs : List Body)
    (hroot : hooked w0 m = true) (hdef : (lookupAttr m w0).isSome = true) :
    ∃ f, lookupAttr m (build w0 (b :: bs)) = some f ∧ f.marked = true := by
  induction bs generalizing w0 b with
  | nil => exact step_marked m w0 b hroot hdef
  | cons b' bs ih =>
    obtain ⟨f, hf, _⟩ := step_marked m w0 b hroot hdef
    exact ih (extend w0 b) b' (hooked_extend w0 b m hroot) (by simp [hf])

example : hooked stdEvaluatable .keys = true ∧ (lookupAttr .keys stdEvaluatable).isSome = true := by
  decide +kernel

/-- Calling `m` on an instance issues exactly one request of type `m`, and its default handler
    runs exactly the code the author designated for that class. -/
theorem default_handler_runs_user_code (m : Meth) (w0 : MRO) (r0 : Option Fn) (b : Body) (bs : List Body)
    (hroot : hooked w0 m = true) (hbase : Inv m w0 r0)
    (hok : ChainOK m (wrappedAt m w0) r0 (b :: bs)) :
    call (build w0 (b :: bs)) m = ⟨[m], intended m r0 (b :: bs)⟩ := by
  obtain ⟨ha, hs⟩ := hook_total m w0 r0 b bs hroot hbase hok
  simp [call, ha, hs]

example : call (build stdEvaluatable [defBody 100 Meth.all, defBody 101 []]) .validate
    = ⟨[.validate], some (.user 100 .validate)⟩ := by decide +kernel

/-- Re-running any of the hooks that ran at class creation changes nothing. -/
theorem wrapper_idempotent (b : Body) (anc : MRO) (ms : List Meth)
    (h : ∀ k, k ∈ ms → hooked anc k = true) :
    runHooks ms anc (mkClass b anc) = mkClass b anc := by
  unfold mkClass
  exact runHooks_idem (hookOrder anc) ms anc (rawClass b) (fun k hk => (mem_hookOrder anc k).2 (h k hk))

example : ∀ k, k ∈ Meth.all → hooked stdEvaluatable k = true := by decide +kernel

/-- The four hooks write disjoint names: the class does not depend on the order (or multiplicity)
    in which the cooperative `__init_subclass__` bodies run. -/
theorem hook_order_irrelevant (b : Body) (anc : MRO) (ms : List Meth)
    (h : ∀ k, k ∈ ms ↔ hooked anc k = true) :
    runHooks ms anc (rawClass b) = mkClass b anc := by
  unfold mkClass
  exact runHooks_congr ms (hookOrder anc) anc (rawClass b)
    (fun k => (h k).trans (mem_hookOrder anc k).symm)

/-- the order actually taken for a subclass of `Evaluatable` (reverse MRO) -/
example : hookOrder stdEvaluatable = [.validate, .explain, .keys, .evaluate] := by decide +kernel

/-- Bases that define none of the eight names and no hook (`Generic`, `ABC`, `Protocol`,
    `Transformation`, `Iterable`, `type`) are invisible wherever they sit in the MRO: this is what
    reduces `Pipeline(Evaluatable, Iterable, Transformation)`, `PipelineStep`,
    `_DatasetClassMeta(type, Evaluatable)` and `Effect(Transformation, Validatable, Explainable, ABC)`
    to the single-inheritance chains of `hook_total`. -/
theorem inert_bases_invisible (m : Meth) (w : MRO) :
    lookupAttr m (w.filter (fun c => !c.inert)) = lookupAttr m w ∧
    lookupSlot m (w.filter (fun c => !c.inert)) = lookupSlot m w ∧
    hooked (w.filter (fun c => !c.inert)) m = hooked w m :=
  drop_inert _ (by simp) m w

example : (⟨9, fun _ => none, fun _ => none, fun _ => false⟩ : Cls).inert = true := by
  decide +kernel

/-- DECISION on `evaluate = Base.evaluate`: assigning the wrapper the class would inherit anyway
    (no override in between) is harmless — same attribute, same slot as not mentioning `m`. -/
theorem alias_inherited_harmless (m : Meth) (w : MRO) (prev : Option Fn) (b b' : Body)
    (hh : hooked w m = true) (hinv : Inv m w prev) (hw : wrappedAt m w = true)
    (hb : b.meth m = .alias prev m) (hs : b.slot m = false)
    (hb' : b'.meth m = .absent) (hs' : b'.slot m = false) :
    lookupAttr m (extend w b) = lookupAttr m (extend w b') ∧
    lookupSlot m (extend w b) = lookupSlot m (extend w b') := by
  -- in both classes the hook finds a wrapper (the body's own, the inherited one) and leaves
  -- the class as written; `hinv` and the alias's annotation play no part
  have h1 := extend_marked w b m (f := .wrapper m) hh (by rw [hb]; rfl) rfl
  have h2 := extend_marked w b' m hh (by rw [hb']; exact (wrappedAt_iff m w).1 hw) rfl
  exact ⟨h1.1.trans h2.1.symm, by rw [h1.2, h2.2, hs, hs']; rfl⟩

example :
    let w := build stdEvaluatable [defBody 100 Meth.all]
    hooked w .evaluate = true ∧ Inv .evaluate w (some (.user 100 .evaluate)) ∧
    wrappedAt .evaluate w = true := by decide +kernel

/-- (b) is necessary: A defines evaluate, B overrides it, C says `evaluate = A.evaluate`.
    The attribute is still a wrapper, but the default handler runs B's code, not A's. -/
theorem premise_alias_needed :
    let bs := [defBody 100 Meth.all, defBody 101 [.evaluate],
               oneBody 102 .evaluate (.alias (some (.user 100 .evaluate)) .evaluate)]
    ¬ ChainOK .evaluate true (some (.user 4 .evaluate)) bs ∧
    lookupAttr .evaluate (build stdEvaluatable bs) = some (.wrapper .evaluate) ∧
    intended .evaluate (some (.user 4 .evaluate)) bs = some (.user 100 .evaluate) ∧
    (call (build stdEvaluatable bs) .evaluate).ran = some (.user 101 .evaluate) := by decide +kernel

/-- (b') the same from an unrelated class: `class D(Evaluatable): evaluate = Value.evaluate`
    leaves `Evaluatable`'s `raise NotImplementedError` stub in the slot. -/
theorem premise_alias_foreign_needed :
    let bs := [oneBody 100 .evaluate (.alias (some (.user 5 .evaluate)) .evaluate)]
    ¬ ChainOK .evaluate false (some (.user 4 .evaluate)) bs ∧
    intended .evaluate (some (.user 4 .evaluate)) bs = some (.user 5 .evaluate) ∧
    call (build stdEvaluatable bs) .evaluate = ⟨[.evaluate], some (.slotfn 4 .evaluate)⟩ := by
  decide +kernel

/-- (a) is necessary: a function with a hand-set marker is not wrapped — no request is issued. -/
theorem premise_no_fake_needed :
    let bs := [defBody 100 Meth.all, oneBody 101 .evaluate (.fn (.fake 7))]
    ¬ ChainOK .evaluate true (some (.user 4 .evaluate)) bs ∧
    call (build stdEvaluatable bs) .evaluate = ⟨[], some (.fake 7)⟩ := by decide +kernel

/-- (a') the wrapper of another method under the wrong name issues the wrong request. -/
theorem premise_same_method_needed :
    let bs := [defBody 100 Meth.all, oneBody 101 .validate (.alias (some (.user 100 .keys)) .keys)]
    ¬ ChainOK .validate true (some (.user 1 .validate)) bs ∧
    call (build stdEvaluatable bs) .validate = ⟨[.keys], some (.user 100 .keys)⟩ := by
  decide +kernel

/-- (c) is necessary: `class X(Validatable): def __labrea_validate__(…)` has its slot overwritten
    by the abstract `Validatable.validate`. -/
theorem premise_slot_needed :
    let bs := [oneBody 100 .validate .absent true]
    ¬ ChainOK .validate (wrappedAt .validate [stdValidatable]) (some (.user 1 .validate)) bs ∧
    intended .validate (some (.user 1 .validate)) bs = some (.slotfn 100 .validate) ∧
    lookupSlot .validate (build [stdValidatable] bs) = some (.user 1 .validate) := by decide +kernel

/-- The two checks of the generated table, re-run on every build against the table the translator
    regenerates from `labrea/*.py`. They are stated together because one kernel evaluation then
    serves both: the kernel caches `evalTable classTable []` and the lookups on each row. -/
theorem classTable_checks :
    (tableCheck classTable && slotIsMostDerivedDef classTable) = true := by decide +kernel

/-- Every class of the package satisfies the premises of `hook_total` (base invariant and side
    conditions, for each method its ancestors hook). -/
theorem classTable_checked : tableCheck classTable = true :=
  (Bool.and_eq_true_iff.1 classTable_checks).1

/-- Hence, for every class of the package and every hooked method: the attribute found on the
    class is the wrapper and the slot found on the class is what its body designates. -/
theorem classTable_hook_total (rows : List Row) (h : evalTable classTable [] = some rows)
    (r : Row) (hr : r ∈ rows) (m : Meth) (hh : hooked r.anc m = true) :
    lookupAttr m r.mro = some (.wrapper m) ∧
    lookupSlot m r.mro = stepIntended m (resolved m r.anc) r.body :=
  tableCheck_sound classTable classTable_checked rows h r hr m hh

example : (evalTable classTable []).isSome = true :=
  have ⟨_, h, _⟩ := (tableCheck_iff _).1 classTable_checked
  h ▸ rfl

/-- Purely syntactic reading of the same fact: on every package class, the slot is the `def` of
    the nearest class (walking the bases upwards) whose body defines the method. -/
theorem classTable_slot_is_most_derived_def : slotIsMostDerivedDef classTable = true :=
  (Bool.and_eq_true_iff.1 classTable_checks).2

end Labrea.Hook
