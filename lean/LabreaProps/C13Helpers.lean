/-
  C13, second half — the helper steps of `labrea.functions`: the table generated from the current
  source is the hand-written specification; every helper step is a `PartialApplication` step, so
  `step_partial` applies; the operand order of the operator rows is a syntactic fact of the value
  computed.
-/
import LabreaModel.Helpers
import LabreaModel.Generated.HelperTable
import LabreaProps.C13
namespace Labrea.Helpers
open Labrea.PipelineLL

/- `PV` has no `DecidableEq` (it is nested through three kinds of lists).  `PV.eq? a b` looks for a proof of
   `a = b` by comparing structurally (closures are never compared), so that a test vector `runHelper … = r`
   is checked by the kernel alone, `eq_of_resultEq (by decide +kernel)`: the elaborator's own evaluation of
   `runHelper` costs more than twice the kernel's.  The kernel only looks at the constructor `some`; the
   proofs inside are never evaluated. -/

mutual
def PV.eq? : (a b : PV) → Option (PLift (a = b))
  | .none, .none | .missing, .missing => some ⟨rfl⟩
  | .bool a, .bool c | .int a, .int c | .str a, .str c | .type a, .type c | .exc a, .exc c =>
    if h : a = c then some ⟨h ▸ rfl⟩ else Option.none
  | .list a, .list c | .tuple a, .tuple c | .set a, .set c | .comp a, .comp c => do
    let ⟨h⟩ ← PV.eqList? a c
    pure ⟨h ▸ rfl⟩
  | .dict a, .dict c => do
    let ⟨h⟩ ← PV.eqDict? a c
    pure ⟨h ▸ rfl⟩
  | .sym f a k, .sym g c l | .record f a k, .record g c l | .fn f a k, .fn g c l =>
    if hf : f = g then do
      let ⟨ha⟩ ← PV.eqList? a c
      let ⟨hk⟩ ← PV.eqKw? k l
      pure ⟨by rw [hf, ha, hk]⟩
    else Option.none
  | _, _ => Option.none
termination_by structural a => a
def PV.eqList? : (a b : List PV) → Option (PLift (a = b))
  | [], [] => some ⟨rfl⟩
  | x :: xs, y :: ys => do
    let ⟨h⟩ ← PV.eq? x y
    let ⟨hs⟩ ← PV.eqList? xs ys
    pure ⟨by rw [h, hs]⟩
  | _, _ => Option.none
termination_by structural a => a
def PV.eqKw? : (a b : List (String × PV)) → Option (PLift (a = b))
  | [], [] => some ⟨rfl⟩
  | (k, x) :: xs, (k', y) :: ys =>
    if hk : k = k' then do
      let ⟨h⟩ ← PV.eq? x y
      let ⟨hs⟩ ← PV.eqKw? xs ys
      pure ⟨by rw [hk, h, hs]⟩
    else Option.none
  | _, _ => Option.none
termination_by structural a => a
def PV.eqDict? : (a b : List (PV × PV)) → Option (PLift (a = b))
  | [], [] => some ⟨rfl⟩
  | (k, x) :: xs, (k', y) :: ys => do
    let ⟨hk⟩ ← PV.eq? k k'
    let ⟨h⟩ ← PV.eq? x y
    let ⟨hs⟩ ← PV.eqDict? xs ys
    pure ⟨by rw [hk, h, hs]⟩
  | _, _ => Option.none
termination_by structural a => a
end

def resultEq? : (a b : Except Err PV) → Option (PLift (a = b))
  | .ok a, .ok b => do
    let ⟨h⟩ ← PV.eq? a b
    pure ⟨h ▸ rfl⟩
  | .error a, .error b => if h : a = b then some ⟨h ▸ rfl⟩ else none
  | _, _ => none

theorem eq_of_resultEq {a b : Except Err PV} (h : (resultEq? a b).isSome = true) : a = b :=
  match resultEq? a b, h with
  | some e, _ => e.down

end Labrea.Helpers

namespace Labrea.Helpers.C13
open Labrea.PipelineLL Labrea.Helpers

/-- The table generated from the current `labrea/functions.py` (LabreaModel/Generated/HelperTable.lean,
    rewritten by harness/translate_functions.py at the start of every check run) is the hand-written
    specification, row by row (61 rows): kind of definition, parameters and defaults, option-capable
    parameters, operand expression.  A swapped operand, or a parameter that no longer reaches an
    `Evaluatable.ensure`, changes the generated row and this stops checking. -/
theorem helper_table_matches : Labrea.Generated.helperTable = helperSpec := rfl

example : helperSpec.length = 61 := by decide
example : (helperSpec.map (·.name)).Nodup := by decide +kernel

example : Spec.opRight "subtract" "sub" "__x" ≠ Spec.opLeft "subtract" "sub" "__x" := by decide
example : Spec.opRight "add" "add" "__x" ≠ { Spec.opRight "add" "add" "__x" with capable := [] } := by decide

/-- Every helper step is a `PartialApplication` step: all bindings are evaluated under the same
    options `o` at evaluation time (one that cannot be evaluated makes the evaluation fail), the
    documented operation `runHelper` receives them by name together with the input, and the
    keys / explain of the step are the union of those of the bindings. -/
theorem helper_step (cx : Ctx) (tag : Nat) (h : String) (bs : List (String × Binding)) (x : PV) (o : Opts) :
    (helperStep cx tag h bs).transform x o =
        (match evalKw o (bs.map fun b => (b.1, b.2.toParam)) with
         | some ks => runHelper cx FUEL h ks x
         | none => .error .evaluation)
    ∧ (helperStep cx tag h bs).keys o = seqUnion (bs.map fun b => b.2.toParam.keys o)
    ∧ (helperStep cx tag h bs).explain o = seqUnion (bs.map fun b => b.2.toParam.explain o) := by
  have hsp := Labrea.PipelineLL.C13.step_partial tag (helperPrim cx h) []
    (bs.map fun b => (b.1, b.2.toParam)) x o
  unfold helperStep
  refine ⟨?_, ?_, ?_⟩
  · rw [hsp.1]
    simp only [evalPos]
    cases evalKw o (bs.map fun b => (b.1, b.2.toParam)) <;> rfl
  · rw [hsp.2.1]; simp [List.map_map, Function.comp_def]
  · rw [hsp.2.2]; simp [List.map_map, Function.comp_def]

/-- `Option(key[, default])` with `key` present: the value is read from the options and the key is reported -/
theorem option_param_present (key : String) (d : Option PV) (o : Opts) (v : PV)
    (h : lookup? key o = some v) :
    (BParam.opt key d).toParam.eval o = some v
    ∧ (BParam.opt key d).toParam.keys o = .ok [key]
    ∧ (BParam.opt key d).toParam.explain o = .ok [key] := by
  simp [BParam.toParam, h]

/-- `Option(key, default)` with `key` absent: the default, and no key -/
theorem option_param_default (key : String) (dv : PV) (o : Opts) (h : lookup? key o = none) :
    (BParam.opt key (some dv)).toParam.eval o = some dv
    ∧ (BParam.opt key (some dv)).toParam.keys o = .ok []
    ∧ (BParam.opt key (some dv)).toParam.explain o = .ok [] := by
  simp [BParam.toParam, h]

/-- `Option(key)` with `key` absent: evaluation fails, `keys()` raises, `explain()` names the key -/
theorem option_param_missing (key : String) (o : Opts) (h : lookup? key o = none) :
    (BParam.opt key none).toParam.eval o = none
    ∧ (BParam.opt key none).toParam.keys o = .error .keyNotFound
    ∧ (BParam.opt key none).toParam.explain o = .ok [key] := by
  simp [BParam.toParam, h]

example : ∃ (o : Opts) (v : PV), lookup? "K" o = some v := ⟨[("K", .int 1)], .int 1, rfl⟩
example : ∃ (o : Opts), lookup? "K" o = none := ⟨[], rfl⟩

/-- rows `opRight name op x` (add, subtract, multiply, divide_by, modulo, eq … is_in):
    the value is `input op x` — the input is the LEFT operand -/
theorem eval_input_op_param (cx : Ctx) (n : Nat) (env : Env) (op p : String) (a b : PV)
    (ha : lookupE "%in" env = .ok a) (hb : lookupE ("p:" ++ p) env = .ok b) :
    eval cx (n + 2) env (.binop op .input (.param p)) = pyBinop op a b := by
  show (do let va ← lookupE "%in" env; let vb ← lookupE ("p:" ++ p) env; pyBinop op va vb) = _
  rw [ha, hb]; rfl

/-- rows `opLeft name op x` (left_multiply, divide_into, contains): the value is `x op input` -/
theorem eval_param_op_input (cx : Ctx) (n : Nat) (env : Env) (op p : String) (a b : PV)
    (ha : lookupE "%in" env = .ok a) (hb : lookupE ("p:" ++ p) env = .ok b) :
    eval cx (n + 2) env (.binop op (.param p) .input) = pyBinop op b a := by
  show (do let vb ← lookupE ("p:" ++ p) env; let va ← lookupE "%in" env; pyBinop op vb va) = _
  rw [ha, hb]; rfl

example : ∃ (env : Env) (a b : PV), lookupE "%in" env = .ok a ∧ lookupE ("p:" ++ "__x") env = .ok b :=
  ⟨[("%in", .int 10), ("p:__x", .int 3)], .int 10, .int 3, rfl, by simp [lookupE]⟩

/-- on a free symbolic operand an operator builds the term `op(left, right)`: the operand order
    is visible in the result (this is what the symbolic runs of the harness compare) -/
theorem binop_symbolic (op : String) (a b : PV)
    (hop : op ≠ "is" ∧ op ≠ "isnot" ∧ op ≠ "in" ∧ op ≠ "notin") (h : a.isSym = true ∨ b.isSym = true) :
    pyBinop op a b = .ok (.sym op [a, b] []) := by
  obtain ⟨h1, h2, h3, h4⟩ := hop
  unfold pyBinop
  have hs : (a.isSym || b.isSym) = true := by rw [Bool.or_eq_true]; exact h
  simp [h1, h2, h3, h4, hs]

example : pyBinop "sub" (.sym "X" [] []) (.sym "P" [] []) = .ok (.sym "sub" [.sym "X" [] [], .sym "P" [] []] []) :=
  binop_symbolic "sub" _ _ (by decide) (Or.inl rfl)

-- the specification computes (non-vacuity of the rows)

section examples
def cx0 : Ctx := specCtx []
def X : PV := .sym "X" [] []
def P : PV := .sym "P" [] []

example : runHelper cx0 12 "subtract" [("__x", .int 3)] (.int 10) = .ok (.int 7) := eq_of_resultEq (by decide +kernel)
example : runHelper cx0 12 "subtract" [("__x", P)] X = .ok (.sym "sub" [X, P] []) := eq_of_resultEq (by decide +kernel)
-- left_multiply / divide_into reverse the operand order
example : runHelper cx0 12 "multiply" [("__x", P)] X = .ok (.sym "mult" [X, P] []) := eq_of_resultEq (by decide +kernel)
example : runHelper cx0 12 "left_multiply" [("__x", P)] X = .ok (.sym "mult" [P, X] []) := eq_of_resultEq (by decide +kernel)
example : runHelper cx0 12 "divide_by" [("__x", P)] X = .ok (.sym "div" [X, P] []) := eq_of_resultEq (by decide +kernel)
example : runHelper cx0 12 "divide_into" [("__x", P)] X = .ok (.sym "div" [P, X] []) := eq_of_resultEq (by decide +kernel)
example : runHelper cx0 12 "get" [("__x", P)] X = .ok (.sym "getitem" [X, P] []) := eq_of_resultEq (by decide +kernel)
example : runHelper cx0 12 "get_from" [("__x", P)] X = .ok (.sym "getitem" [P, X] []) := eq_of_resultEq (by decide +kernel)
example : runHelper cx0 12 "get" [("__x", .int 7), ("default", .str "d")] (.list [.int 1]) = .ok (.str "d") := eq_of_resultEq (by decide +kernel)
example : runHelper cx0 12 "get" [("__x", .int 7)] (.list [.int 1]) = .error (.raised "IndexError") := eq_of_resultEq (by decide +kernel)
-- has_remainder(d, r): x % d == r
example : runHelper cx0 12 "has_remainder" [("divisor", .int 3), ("reminder", .int 2)] (.int 8) = .ok (.bool true) := eq_of_resultEq (by decide +kernel)
-- wrappers, compositions, instances unfold through the table
example : runHelper cx0 30 "is_not_in" [("container", .list [.int 1, .int 2])] (.int 3) = .ok (.bool true) := eq_of_resultEq (by decide +kernel)
example : runHelper cx0 30 "intersects" [("iterable", .list [.int 1, .int 2])] (.list [.int 2, .int 5]) = .ok (.bool true) := eq_of_resultEq (by decide +kernel)
example : runHelper cx0 30 "odd" [] (.int (-3)) = .ok (.bool true) := eq_of_resultEq (by decide +kernel)
example : runHelper cx0 30 "append" [("item", .int 4)] (.list [.int 1]) = .ok (.list [.int 1, .int 4]) := eq_of_resultEq (by decide +kernel)
-- reduce(g) folds from the left: g(g(1, 2), 3)
example : runHelper cx0 30 "reduce" [("func", .fn "free:g" [] [])] (.list [.int 1, .int 2, .int 3]) =
    .ok (.record "g" [.record "g" [.int 1, .int 2] [], .int 3] []) := eq_of_resultEq (by decide +kernel)
example : runHelper cx0 60 "map_keys" [("func", .fn "free:f" [] [])] (.dict [(.str "a", .int 1)]) =
    .ok (.dict [(.record "f" [.str "a"] [], .int 1)]) := eq_of_resultEq (by decide +kernel)
end examples

end Labrea.Helpers.C13
