/-
  InterfaceSM — overload tables, dispatch, per-dataset caches and interfaces as a state machine
  over *histories* (property C07).

  What is modelled (labrea/overload.py, dataset.py, interface.py, conditional.py):

  * a dataset = `Overloaded(dispatch, lookup, default)` + callback + `MemoryCache`;
    `Overloaded.switch` is rebuilt from the current `dispatch/lookup/default` at every use,
    so `select` reads the *current* table;
  * `Switch._lookup`: dispatch evaluated; failure -> default (no `_DependsOn`), else the failure;
    unregistered value -> `_DependsOn(default, dispatch)` or `SwitchError`;
    registered -> `_DependsOn(lookup[key], dispatch)`;
  * `_DependsOn.keys = impl.keys | dispatch.keys`; the dataset's cache key is the fingerprint
    (sorted `(key, value)` pairs) of those keys; hit -> stored value, miss -> callback applied to
    the chosen implementation's value, stored;
  * `Dataset.register / overload (list aliases, stacked decorators) / set_dispatch` (the new
    `Overloaded` gets a copy of the table, the dataset keeps its cache);
  * `Interface.__init__` (one dispatch set on every member), `Implementation.__init__`
    (`defineImpl`, the repaired order: unknown member -> TypeError, abstract member without
    overload -> TypeError, only then registrations) and the pre-repair loop (`defineImplOld`).

  Implementations, dispatch datasets and callbacks are *parameters* (`Env`): an implementation
  is any deterministic evaluatable given by its value and key functions.  Python's hash equality
  of aliases (`1 == True`) is modelled by normalising aliases (`Alias.norm`).

  Not modelled: `with_options` derivatives (the only other holders of a reference to a
  dataset's `Overloaded`; without them the identity of the object replaced by `set_dispatch`
  is unobservable), effects, logging, non-memory caches, unhashable dispatch values beyond
  reporting `unhashable`.
-/
import LabreaModel.Value
namespace Labrea.Iface

abbrev Opts := List (String × V)
abbrev DsId := Nat
abbrev IfId := Nat
abbrev ImplId := Nat
abbrev CbId := Nat
abbrev DispId := Nat

/-! ## aliases (Python hashables) -/

inductive Atom where
  | nil
  | bool (b : Bool)
  | int (i : Int)
  | str (s : String)
  | missing
  deriving DecidableEq, Repr, Inhabited

inductive Alias where
  | atom (a : Atom)
  | tuple (xs : List Atom)
  deriving DecidableEq, Repr, Inhabited

/-- `True == 1`, `False == 0` (and equal hashes): the dict key an atom denotes -/
def Atom.norm : Atom → Atom
  | .bool b => .int (if b then 1 else 0)
  | a => a

def Alias.norm : Alias → Alias
  | .atom a => .atom a.norm
  | .tuple xs => .tuple (xs.map Atom.norm)

theorem Atom.norm_idem (a : Atom) : a.norm.norm = a.norm := by
  cases a <;> simp [Atom.norm]

theorem Alias.norm_idem (a : Alias) : a.norm.norm = a.norm := by
  cases a with
  | atom a => simp [Alias.norm, Atom.norm_idem]
  | tuple xs => simp [Alias.norm, Atom.norm_idem]

/-- Python `a == b` on aliases -/
def pyEq (a b : Alias) : Prop := a.norm = b.norm

instance (a b : Alias) : Decidable (pyEq a b) := by unfold pyEq; exact inferInstance

def atomOf : V → Option Atom
  | .none => some .nil
  | .bool b => some (.bool b)
  | .int i => some (.int i)
  | .str s => some (.str s)
  | .missing => some .missing
  | _ => Option.none

def atomsOf : List V → Option (List Atom)
  | [] => some []
  | x :: xs => match atomOf x, atomsOf xs with
    | some a, some as => some (a :: as)
    | _, _ => Option.none

/-- the hashable a dispatch value denotes; `none` = unhashable (list / dict / …) -/
def aliasOf : V → Option Alias
  | .tuple xs => (atomsOf xs).map Alias.tuple
  | v => (atomOf v).map Alias.atom

/-! ## generic association lists (Python dict: replace in place or append) -/

def aget {κ β : Type} [DecidableEq κ] (k : κ) : List (κ × β) → Option β
  | [] => Option.none
  | (k', v) :: rest => if k' = k then some v else aget k rest

def aput {κ β : Type} [DecidableEq κ] (k : κ) (v : β) : List (κ × β) → List (κ × β)
  | [] => [(k, v)]
  | (k', v') :: rest => if k' = k then (k, v) :: rest else (k', v') :: aput k v rest

theorem aget_aput {κ β : Type} [DecidableEq κ] (k k' : κ) (v : β) (l : List (κ × β)) :
    aget k' (aput k v l) = if k = k' then some v else aget k' l := by
  induction l with
  | nil => simp [aput, aget]
  | cons p rest ih =>
    obtain ⟨k₀, v₀⟩ := p
    by_cases h : k₀ = k
    · subst h; by_cases h' : k₀ = k' <;> simp [aput, aget, h']
    · by_cases h' : k₀ = k'
      · subst h'; simp [aput, aget, h, Ne.symm h]
      · simp [aput, aget, h, h', ih]

theorem mem_aput {κ β : Type} [DecidableEq κ] {k : κ} {v : β} {l : List (κ × β)} {e : κ × β}
    (h : e ∈ aput k v l) : e = (k, v) ∨ e ∈ l := by
  induction l with
  | nil => exact .inl (List.mem_singleton.mp h)
  | cons p rest ih =>
    unfold aput at h
    split at h
    · exact (List.mem_cons.mp h).imp_right (List.mem_cons_of_mem _)
    · rcases List.mem_cons.mp h with rfl | h
      · exact .inr List.mem_cons_self
      · exact (ih h).imp_right (List.mem_cons_of_mem _)

theorem aget_some_mem {κ β : Type} [DecidableEq κ] {k : κ} {v : β} {l : List (κ × β)}
    (h : aget k l = some v) : (k, v) ∈ l := by
  induction l with
  | nil => cases h
  | cons p rest ih =>
    unfold aget at h
    split at h
    · cases h; subst k; exact List.mem_cons_self
    · exact List.mem_cons_of_mem _ (ih h)

/-! ## overload tables: keys are stored normalised, lookups normalise -/

abbrev Table := List (Alias × ImplId)

/-- `key in lookup` / `lookup[key]` with Python equality -/
def tlookup (a : Alias) (t : Table) : Option ImplId := aget a.norm t

/-- `{**lookup, key: value}` -/
def tinsert (a : Alias) (i : ImplId) (t : Table) : Table := aput a.norm i t

theorem tlookup_tinsert (a b : Alias) (i : ImplId) (t : Table) :
    tlookup b (tinsert a i t) = if pyEq a b then some i else tlookup b t :=
  aget_aput _ _ _ _

theorem tlookup_tinsert_eq {a b : Alias} (h : pyEq a b) (i : ImplId) (t : Table) :
    tlookup b (tinsert a i t) = some i := by
  rw [tlookup_tinsert, if_pos h]

theorem tlookup_tinsert_ne {a b : Alias} (h : ¬ pyEq a b) (i : ImplId) (t : Table) :
    tlookup b (tinsert a i t) = tlookup b t := by
  rw [tlookup_tinsert, if_neg h]

/-! ## fingerprints -/

abbrev Fingerprint := List (String × Option V)

def insKey (k : String) : List String → List String
  | [] => [k]
  | x :: xs => if k < x then k :: x :: xs else if k = x then x :: xs else x :: insKey k xs

/-- `sorted(set(keys))` -/
def sortKeys (ks : List String) : List String := ks.foldr insKey []

/-- `[{key: get_dotted_key(key, options)} for key in sorted(keys)]` on flat dictionaries -/
def fpOf (ks : List String) (o : Opts) : Fingerprint := (sortKeys ks).map fun k => (k, alookup k o)

theorem mem_insKey {k y : String} {xs : List String} : y ∈ insKey k xs ↔ y = k ∨ y ∈ xs := by
  induction xs with
  | nil => simp [insKey]
  | cons x xs ih =>
    unfold insKey
    split
    · exact List.mem_cons
    · split
      · subst k; simp only [List.mem_cons, or_self_left]
      · simp only [List.mem_cons, ih, or_left_comm]

theorem mem_sortKeys {y : String} {ks : List String} : y ∈ sortKeys ks ↔ y ∈ ks := by
  induction ks with
  | nil => simp [sortKeys]
  | cons k ks ih =>
    rw [show sortKeys (k :: ks) = insKey k (sortKeys ks) from rfl, mem_insKey, ih, List.mem_cons]

theorem fpOf_eq_agree {ks ks' : List String} {o o' : Opts} (h : fpOf ks o = fpOf ks' o')
    {k : String} (hk : k ∈ ks) : k ∈ ks' ∧ alookup k o = alookup k o' := by
  have h1 : (k, alookup k o) ∈ fpOf ks o :=
    List.mem_map.mpr ⟨k, mem_sortKeys.mpr hk, rfl⟩
  obtain ⟨k', hk', he⟩ := List.mem_map.mp (h ▸ h1)
  obtain ⟨rfl, he2⟩ := Prod.mk.inj he
  exact ⟨mem_sortKeys.mp hk', he2.symm⟩

/-! ## errors, dispatch expressions, the environment of opaque evaluatables -/

inductive Err where
  | keyNotFound (k : String)
  | switchError (a : Alias)
  | unhashable
  | other (tag : String)
  deriving DecidableEq, Repr, Inhabited

inductive Dispatch where
  /-- `Value(MISSING)`: a dataset created without `dispatch=` -/
  | missing
  /-- `dispatch='K'` / `Option('K')` -/
  | key (k : String)
  /-- `Option('K', v)` -/
  | keyDefault (k : String) (v : V)
  /-- an opaque evaluatable (a dataset) -/
  | dataset (dd : DispId)
  deriving DecidableEq, Repr, Inhabited

/-- the opaque evaluatables: implementation bodies (value and keys under an options dictionary),
    dispatch datasets, callbacks -/
structure Env where
  implVal : ImplId → Opts → Except Err V
  implKeys : ImplId → Opts → Except Err (List String)
  dispVal : DispId → Opts → Except Err V
  dispKeys : DispId → Opts → Except Err (List String)
  cb : CbId → V → V

def Dispatch.eval (env : Env) : Dispatch → Opts → Except Err V
  | .missing, _ => .ok .missing
  | .key k, o => match alookup k o with
    | some v => .ok v
    | Option.none => .error (.keyNotFound k)
  | .keyDefault k v, o => match alookup k o with
    | some w => .ok w
    | Option.none => .ok v
  | .dataset dd, o => env.dispVal dd o

def Dispatch.keys (env : Env) : Dispatch → Opts → Except Err (List String)
  | .missing, _ => .ok []
  | .key k, o => match alookup k o with
    | some _ => .ok [k]
    | Option.none => .error (.keyNotFound k)
  | .keyDefault k _, o => match alookup k o with
    | some _ => .ok [k]
    | Option.none => .ok []
  | .dataset dd, o => env.dispKeys dd o

def Dispatch.isMissing : Dispatch → Bool
  | .missing => true
  | _ => false

/-! ## datasets -/

/-- everything of a dataset except its cache -/
structure Cfg where
  dispatch : Dispatch
  table : Table
  default : Option ImplId
  callback : Option CbId
  deriving DecidableEq, Repr

structure DsRec extends Cfg where
  cache : List (Fingerprint × V)
  deriving DecidableEq, Repr

structure IfRec where
  dispatch : Dispatch
  members : List (String × DsId)
  deriving DecidableEq, Repr

structure St where
  ds : DsId → Option DsRec
  ifs : IfId → Option IfRec

def St.init : St := { ds := fun _ => Option.none, ifs := fun _ => Option.none }

def St.setDs (s : St) (d : DsId) (r : DsRec) : St :=
  { s with ds := fun x => if x = d then some r else s.ds x }

def St.modDs (s : St) (d : DsId) (f : DsRec → DsRec) : St :=
  match s.ds d with
  | Option.none => s
  | some r => s.setDs d (f r)

/-! ## selection (`Switch._lookup`) -/

inductive Choice where
  /-- the dispatch evaluated to `a`, which is registered -/
  | hit (a : Alias) (i : ImplId)
  /-- the dispatch evaluated to `a`, unregistered: default, still depending on the dispatch -/
  | dflt (a : Alias) (i : ImplId)
  /-- the dispatch could not be evaluated: default, no dependency on the dispatch -/
  | fallback (i : ImplId)
  deriving DecidableEq, Repr

def Choice.impl : Choice → ImplId
  | .hit _ i => i
  | .dflt _ i => i
  | .fallback i => i

def Choice.alias? : Choice → Option Alias
  | .hit a _ => some a
  | .dflt a _ => some a
  | .fallback _ => Option.none

def select (env : Env) (c : Cfg) (o : Opts) : Except Err Choice :=
  match c.dispatch.eval env o with
  | .error e => match c.default with
    | some i => .ok (.fallback i)
    | Option.none => .error e
  | .ok v => match aliasOf v with
    | Option.none => .error .unhashable
    | some a => match tlookup a c.table with
      | some i => .ok (.hit a i)
      | Option.none => match c.default with
        | some i => .ok (.dflt a i)
        | Option.none => .error (.switchError a)

/-- `impl.keys(o) | dispatch.keys(o)` -/
def withDispatchKeys (env : Env) (c : Cfg) (o : Opts) (i : ImplId) : Except Err (List String) :=
  match env.implKeys i o with
  | .error e => .error e
  | .ok ik => match c.dispatch.keys env o with
    | .error e => .error e
    | .ok dk => .ok (ik ++ dk)

/-- `Switch.keys`: `_DependsOn(impl, dispatch).keys`, or the bare default's keys -/
def chosenKeys (env : Env) (c : Cfg) (o : Opts) : Choice → Except Err (List String)
  | .hit _ i => withDispatchKeys env c o i
  | .dflt _ i => withDispatchKeys env c o i
  | .fallback i => env.implKeys i o

def fingerprint (env : Env) (c : Cfg) (o : Opts) : Except Err Fingerprint :=
  match select env c o with
  | .error e => .error e
  | .ok ch => match chosenKeys env c o ch with
    | .error e => .error e
    | .ok ks => .ok (fpOf ks o)

def applyCb (env : Env) : Option CbId → V → V
  | Option.none, v => v
  | some f, v => env.cb f v

/-- the cold (cache-free) evaluation of a dataset with configuration `c` -/
def den (env : Env) (c : Cfg) (o : Opts) : Except Err V :=
  match select env c o with
  | .error e => .error e
  | .ok ch => match chosenKeys env c o ch with
    | .error e => .error e
    | .ok _ => match env.implVal ch.impl o with
      | .error e => .error e
      | .ok v => .ok (applyCb env c.callback v)

instance {ε α : Type} [DecidableEq ε] [DecidableEq α] : DecidableEq (Except ε α) := fun a b =>
  match a, b with
  | .ok x, .ok y => if h : x = y then isTrue (by rw [h]) else isFalse (fun e => h (by cases e; rfl))
  | .error x, .error y =>
    if h : x = y then isTrue (by rw [h]) else isFalse (fun e => h (by cases e; rfl))
  | .ok _, .error _ => isFalse (fun e => by cases e)
  | .error _, .ok _ => isFalse (fun e => by cases e)

structure Outcome where
  res : Except Err V
  hit : Bool
  fp : Option Fingerprint
  deriving DecidableEq, Repr

/-- `Dataset.evaluate` through `Cached`: fingerprint, hit -> stored value, miss -> compute + store -/
def evalDs (env : Env) (s : St) (d : DsId) (o : Opts) : Outcome × St :=
  match s.ds d with
  | Option.none => (⟨.error (.other "no such dataset"), false, Option.none⟩, s)
  | some r => match fingerprint env r.toCfg o with
    | .error e => (⟨.error e, false, Option.none⟩, s)
    | .ok fp => match aget fp r.cache with
      | some v => (⟨.ok v, true, some fp⟩, s)
      | Option.none => match den env r.toCfg o with
        | .error e => (⟨.error e, false, some fp⟩, s)
        | .ok w => (⟨.ok w, false, some fp⟩, s.setDs d { r with cache := aput fp w r.cache })

/-! ## operations -/

inductive TypeErr where
  | unknownMember (n : String)
  | missingAbstract (n : String)
  deriving DecidableEq, Repr

inductive Op where
  /-- `@dataset(dispatch=…, callback=…)` / `@abstractdataset(dispatch=…)` (fresh cache) -/
  | newDs (d : DsId) (disp : Dispatch) (dflt : Option ImplId) (cb : Option CbId)
  /-- `d.register(alias, impl)` -/
  | register (d : DsId) (a : Alias) (i : ImplId)
  /-- `@d1.overload(as1) @d2.overload(as2) … def impl` — targets in *application* order
      (innermost decorator first); one target = a plain `.overload(alias | [aliases])` -/
  | overload (targets : List (DsId × List Alias)) (i : ImplId)
  /-- `d.set_dispatch(disp)` -/
  | setDispatch (d : DsId) (disp : Dispatch)
  /-- `@interface(disp) class I: members` (member datasets exist already) -/
  | defineInterface (I : IfId) (disp : Dispatch) (members : List (String × DsId))
  /-- `@implements(*ifaces, alias=aliases) class C: provided` -/
  | defineImpl (ifaces : List IfId) (aliases : List Alias) (provided : List (String × ImplId))
  | evaluate (d : DsId) (o : Opts)

inductive Obs where
  | done
  | valueError
  | typeError (e : TypeErr)
  | eval (out : Outcome)
  deriving DecidableEq, Repr

def regDs (s : St) (d : DsId) (a : Alias) (i : ImplId) : St :=
  s.modDs d fun r => { r with table := tinsert a i r.table }

abbrev Reg := DsId × Alias × ImplId

def applyRegs (s : St) (regs : List Reg) : St :=
  regs.foldl (fun s x => regDs s x.1 x.2.1 x.2.2) s

def hasDispatch (s : St) (d : DsId) : Bool :=
  match s.ds d with
  | some r => !r.dispatch.isMissing
  | Option.none => false

def overloadRegs (targets : List (DsId × List Alias)) (i : ImplId) : List Reg :=
  targets.flatMap fun t => t.2.map fun a => (t.1, a, i)

/-- every `.overload(alias)` call checks for a dispatch (ValueError) before any decorator runs -/
def doOverload (s : St) (targets : List (DsId × List Alias)) (i : ImplId) : St × Obs :=
  if targets.all (fun t => hasDispatch s t.1) then (applyRegs s (overloadRegs targets i), .done)
  else (s, .valueError)

/-- `set_dispatch`: new `Overloaded(dispatch, lookup.copy(), default)`; the cache stays -/
def setDisp (s : St) (d : DsId) (disp : Dispatch) : St :=
  s.modDs d fun r => { r with dispatch := disp }

def defIface (s : St) (I : IfId) (disp : Dispatch) (ms : List (String × DsId)) : St :=
  let s1 := ms.foldl (fun s m => setDisp s m.2 disp) s
  { s1 with ifs := fun x => if x = I then some ⟨disp, ms⟩ else s1.ifs x }

/-- `_get_members`, flattened: `(name, member)` in interface order -/
def flatMembers (s : St) (ifaces : List IfId) : List (String × DsId) :=
  ifaces.flatMap fun I => match s.ifs I with
    | some ir => ir.members
    | Option.none => []

def isAbstract (s : St) (d : DsId) : Bool :=
  match s.ds d with
  | some r => r.default.isNone
  | Option.none => false

/-- first-occurrence order of distinct elements (the key order of the `members` dict) -/
def dedupF {α : Type} [DecidableEq α] : List α → List α
  | [] => []
  | x :: xs => x :: (dedupF xs).filter (fun y => decide (y ≠ x))

theorem mem_dedupF {α : Type} [DecidableEq α] {y : α} {l : List α} : y ∈ dedupF l ↔ y ∈ l := by
  induction l with
  | nil => simp [dedupF]
  | cons x xs ih =>
    simp [dedupF, ih]
    by_cases h : y = x <;> simp [h]

def memberNames (flat : List (String × DsId)) : List String := dedupF (flat.map Prod.fst)

def regsFor (flat : List (String × DsId)) (aliases : List Alias) (n : String) (i : ImplId) :
    List Reg :=
  (flat.filter fun m => m.1 = n).flatMap fun m => aliases.map fun a => (m.2, a, i)

/-- the registrations of a complete implementation: every provided member, on every interface
    that has a member of that name, under every alias -/
def implRegs (flat : List (String × DsId)) (aliases : List Alias)
    (provided : List (String × ImplId)) : List Reg :=
  (memberNames flat).flatMap fun n => match aget n provided with
    | Option.none => []
    | some i => regsFor flat aliases n i

def unknownCheck (flat : List (String × DsId)) (provided : List (String × ImplId)) :
    Option (String × ImplId) :=
  provided.find? fun p => !(memberNames flat).contains p.1

def abstractCheck (s : St) (flat : List (String × DsId)) (provided : List (String × ImplId)) :
    Option String :=
  (memberNames flat).find? fun n =>
    (aget n provided).isNone && flat.any fun m => m.1 == n && isAbstract s m.2

/-- `Implementation.__init__` (repaired): the state after the statement and the TypeError raised,
    if any -/
def defineImpl (s : St) (ifaces : List IfId) (aliases : List Alias)
    (provided : List (String × ImplId)) : St × Option TypeErr :=
  let flat := flatMembers s ifaces
  match unknownCheck flat provided with
  | some p => (s, some (.unknownMember p.1))
  | Option.none => match abstractCheck s flat provided with
    | some n => (s, some (.missingAbstract n))
    | Option.none => (applyRegs s (implRegs flat aliases provided), Option.none)

/-- the loop before the repair: check and register member name by member name -/
def oldLoop (flat : List (String × DsId)) (aliases : List Alias)
    (provided : List (String × ImplId)) : List String → St → St × Option TypeErr
  | [], s => (s, Option.none)
  | n :: ns, s =>
    match aget n provided with
    | Option.none =>
      if (flat.filter fun m => m.1 = n).any (fun m => isAbstract s m.2) then
        (s, some (.missingAbstract n))
      else oldLoop flat aliases provided ns s
    | some i => oldLoop flat aliases provided ns (applyRegs s (regsFor flat aliases n i))

def defineImplOld (s : St) (ifaces : List IfId) (aliases : List Alias)
    (provided : List (String × ImplId)) : St × Option TypeErr :=
  let flat := flatMembers s ifaces
  match unknownCheck flat provided with
  | some p => (s, some (.unknownMember p.1))
  | Option.none => oldLoop flat aliases provided (memberNames flat) s

def step (env : Env) (s : St) : Op → St × Obs
  | .newDs d disp dflt cb => (s.setDs d ⟨⟨disp, [], dflt, cb⟩, []⟩, .done)
  | .register d a i => (regDs s d a i, .done)
  | .overload ts i => doOverload s ts i
  | .setDispatch d disp => (setDisp s d disp, .done)
  | .defineInterface I disp ms => (defIface s I disp ms, .done)
  | .defineImpl ifs as pr =>
    match defineImpl s ifs as pr with
    | (s', Option.none) => (s', .done)
    | (s', some e) => (s', .typeError e)
  | .evaluate d o => ((evalDs env s d o).2, .eval (evalDs env s d o).1)

def run (env : Env) : St → List Op → St
  | s, [] => s
  | s, op :: h => run env (step env s op).1 h

def runObs (env : Env) : St → List Op → List Obs
  | _, [] => []
  | s, op :: h => (step env s op).2 :: runObs env (step env s op).1 h

end Labrea.Iface
