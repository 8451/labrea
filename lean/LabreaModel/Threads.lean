/-
  Threads — the `RuntimeSM` state under an arbitrary interleaving of per-thread programs, plus the
  two other pieces of shared state the property C15 speaks of:

    * `Overloaded.register`  : `with self._lock: self.lookup = {**self.lookup, key: value}` as ONE
      atomic read-modify-write of a shared table, and the two-step (read; write) variant that the
      code would be without the lock;
    * `MemoryCache`          : `exists / get / set` as atomic dict operations keyed by fingerprint,
      driven by the control flow of `Cached.evaluate` + the default cache handlers.

  An interleaving is simply a list of `(thread, atomic step)`: any list is allowed, so there is no
  bound on the number of threads or on the length of their programs.  Atomic steps are the
  `with lock:` bodies of runtime.py (`RuntimeSM.step`).  No Mathlib.
-/
import LabreaModel.RuntimeSM

namespace Labrea.Threads
open Labrea.RuntimeSM

abbrev Sched := List (Thread × Op)

/-- run an interleaving; the trace records who obtained which result -/
def runSched : Sched → State → State × List (Thread × Res)
  | [], s => (s, [])
  | (t, o) :: rest, s =>
    let out := runSched rest (step s t o).1
    (out.1, (t, (step s t o).2) :: out.2)

/-- the observations of thread `t` in a trace -/
def obsOf (t : Thread) : List (Thread × Res) → List Res
  | [] => []
  | (t', r) :: rest => if t' = t then r :: obsOf t rest else obsOf t rest

/-- the part of the state that belongs to thread `t`: its slot, its saved-runtime stacks on every
    object, its allocation counter -/
structure Slice where
  cur : Option Id
  entered : Id → List (Option Id)
  next : Nat

def slice (s : State) (t : Thread) : Slice := ⟨s.cur t, fun r => (s.objs r).entered t, s.next t⟩

/-- what a step may read outside the thread's slice: the live defaults and the handler tables of
    runtime objects (immutable once created, `RuntimeSM.step_handlers`) -/
structure Shared where
  defaults : Table
  handlers : Id → Table

def shared (s : State) : Shared := ⟨s.defaults, fun r => (s.objs r).handlers⟩

/-- a thread's own step, with `inherit p` resolved to the value read from the parent's slot -/
inductive LOp
  | op (o : Op)
  | adopt (x : Option Id)
  deriving Repr

def toLOp (s : State) : Op → LOp
  | .inherit p => .adopt (s.cur p)
  | o => .op o

/-- the local semantics of one step of thread `t`: a function of the thread's slice and the
    shared read-only data alone -/
def lstep (t : Thread) (e : Shared) : LOp → Slice → Slice × Res
  | .adopt (some r), sl => ({ sl with cur := some r }, .unit)
  | .adopt none, sl => ({ sl with cur := some (t, sl.next), next := sl.next + 1 }, .unit)
  | .op .current, sl =>
      match sl.cur with
      | some r => (sl, .id r)
      | none => ({ sl with cur := some (t, sl.next), next := sl.next + 1 }, .id (t, sl.next))
  | .op (.new _), sl => ({ sl with next := sl.next + 1 }, .id (t, sl.next))
  | .op (.derive _ _), sl => ({ sl with next := sl.next + 1 }, .id (t, sl.next))
  | .op (.handleCur _), sl =>
      match sl.cur with
      | some _ => ({ sl with next := sl.next + 1 }, .id (t, sl.next))
      | none => ({ sl with cur := some (t, sl.next), next := sl.next + 2 }, .id (t, sl.next + 1))
  | .op (.enter r), sl =>
      ({ sl with cur := some r, entered := upd sl.entered r (sl.cur :: sl.entered r) }, .unit)
  | .op (.exit r), sl =>
      match sl.entered r with
      | [] => (sl, .notEntered)
      | prev :: rest => ({ sl with cur := prev, entered := upd sl.entered r rest }, .unit)
  | .op (.registerDefault _ _), sl => (sl, .unit)
  | .op (.run ty), sl =>
      match sl.cur with
      | some r => (sl, serve e.defaults (e.handlers r) ty)
      | none => ({ sl with cur := some (t, sl.next), next := sl.next + 1 },
                 serve e.defaults e.defaults ty)
  | .op (.inherit _), sl => (sl, .unit)      -- never produced by `toLOp`

/-- thread `t`'s view of an interleaving: its own steps, each with the shared data at that moment -/
def localView (t : Thread) : Sched → State → List (Shared × LOp)
  | [], _ => []
  | (t', o) :: rest, s =>
    if t' = t then (shared s, toLOp s o) :: localView t rest (step s t' o).1
    else localView t rest (step s t' o).1

def lrun (t : Thread) : List (Shared × LOp) → Slice → Slice × List Res
  | [], sl => (sl, [])
  | (e, o) :: rest, sl =>
    let out := lrun t rest (lstep t e o sl).1
    (out.1, (lstep t e o sl).2 :: out.2)

abbrev Key := Nat
abbrev Val := Nat
abbrev RTable := List (Key × Val)

/-- the locked body: `self.lookup = {**self.lookup, key: value}` -/
def regAtomic (tb : RTable) (k : Key) (v : Val) : RTable := (k, v) :: tb

def runReg : List (Thread × Key × Val) → RTable → RTable
  | [], tb => tb
  | (_, k, v) :: rest, tb => runReg rest (regAtomic tb k v)

/-- without the lock the body is two steps: read the table into a local, write local + entry -/
inductive RStep
  | read
  | write (k : Key) (v : Val)
  deriving DecidableEq, Repr

structure RState where
  table : RTable
  loc : Thread → RTable

def rstep (s : RState) (t : Thread) : RStep → RState
  | .read => { s with loc := upd s.loc t s.table }
  | .write k v => { s with table := (k, v) :: s.loc t }

def runReg2 : List (Thread × RStep) → RState → RState
  | [], s => s
  | (t, st) :: rest, s => runReg2 rest (rstep s t st)

abbrev Fp := Nat

/-- control state of one thread evaluating the cached dataset with options of fingerprint `fp t` -/
inductive Pc
  | start                -- about to run CacheExistsRequest
  | sawExists            -- exists returned True: about to run CacheGetRequest
  | needSet              -- computed its value: about to `cache.set`
  | afterSet             -- the set handler re-reads: `cache.get`
  | done (v : Val)
  deriving DecidableEq, Repr

structure CState where
  store : Fp → Option Val
  pc : Thread → Pc

/-- one atomic dict operation of thread `t`; `val f` is the value the dataset computes from options
    with fingerprint `f`, `fp t` the fingerprint of thread `t`'s options -/
def cstep (val : Fp → Val) (fp : Thread → Fp) (s : CState) (t : Thread) : CState :=
  match s.pc t with
  | .start =>
      if (s.store (fp t)).isSome then { s with pc := upd s.pc t .sawExists }
      else { s with pc := upd s.pc t .needSet }
  | .sawExists =>
      match s.store (fp t) with
      | some v => { s with pc := upd s.pc t (.done v) }
      | none => { s with pc := upd s.pc t .needSet }
  | .needSet => { store := upd s.store (fp t) (some (val (fp t))), pc := upd s.pc t .afterSet }
  | .afterSet =>
      match s.store (fp t) with
      | some v => { s with pc := upd s.pc t (.done v) }
      | none => { s with pc := upd s.pc t (.done (val (fp t))) }
  | .done _ => s

def runCache (val : Fp → Val) (fp : Thread → Fp) : List Thread → CState → CState
  | [], s => s
  | t :: rest, s => runCache val fp rest (cstep val fp s t)

/-- what the environment of the threads may do between two of their atomic operations: a thread
    takes its next step, or the backend drops the entry under a fingerprint (a bounded / expiring /
    shared backend; for the thread between its `exists` and its `get` this is indistinguishable from
    another thread's `del`) -/
inductive CEv
  | step (t : Thread)
  | evict (f : Fp)
  deriving DecidableEq, Repr

def evict (s : CState) (f : Fp) : CState := { s with store := upd s.store f none }

def runCacheEv (val : Fp → Val) (fp : Thread → Fp) : List CEv → CState → CState
  | [], s => s
  | .step t :: rest, s => runCacheEv val fp rest (cstep val fp s t)
  | .evict f :: rest, s => runCacheEv val fp rest (evict s f)

/-- the same thread step WITHOUT the fall-through of `Cached.evaluate` (`except CacheGetFailure:
    pass`): a `get` that misses after `exists` said True propagates its failure — `none` -/
def cstepStrict (val : Fp → Val) (fp : Thread → Fp) (s : CState) (t : Thread) : Option CState :=
  match s.pc t, s.store (fp t) with
  | .sawExists, none => none
  | _, _ => some (cstep val fp s t)

def runStrictEv (val : Fp → Val) (fp : Thread → Fp) : List CEv → CState → Option CState
  | [], s => some s
  | .step t :: rest, s => (cstepStrict val fp s t).bind (runStrictEv val fp rest)
  | .evict f :: rest, s => runStrictEv val fp rest (evict s f)

/-- store invariant: the entry under fingerprint `f` is `val f` -/
def Inv (val : Fp → Val) (store : Fp → Option Val) : Prop := ∀ f v, store f = some v → v = val f

theorem step_slice_other (s : State) (t t' : Thread) (o : Op) (h : t' ≠ t) :
    slice (step s t o).1 t' = slice s t' := by
  refine step_writes (P := fun a b => slice b t' = slice a t') t (fun _ => rfl) (fun hab hbc => hbc.trans hab)
    ?_ ?_ (fun _ _ _ => rfl) s o ?_
  · intro s hs; simp [slice, h]
  · intro s x; simp [slice, h]
  · intro _ r l x; simp [slice, h, upd_objs_entered]

theorem step_slice_own (s : State) (t : Thread) (o : Op) :
    lstep t (shared s) (toLOp s o) (slice s t) = (slice (step s t o).1 t, (step s t o).2) := by
  cases o with
  | current | handleCur hs =>
    simp only [step, toLOp, lstep, slice, current]
    cases h : s.cur t <;> simp [h]
  | new hs | derive r hs | registerDefault ty hh => simp [step, toLOp, lstep, slice]
  | enter r => simp [step, toLOp, lstep, slice, upd_objs_entered]; rfl
  | exit r =>
    simp only [step, toLOp, lstep, slice]
    cases h : (s.objs r).entered t <;> simp [upd_objs_entered] <;> rfl
  | run ty =>
    simp only [step, toLOp, lstep, slice, current, shared]
    cases h : s.cur t <;> simp [h, alloc_handlers]
  | inherit p =>
    simp only [step, toLOp, lstep, slice]
    cases h : s.cur p <;> simp

theorem lrun_view (t : Thread) (sched : Sched) : ∀ (s : State),
    slice (runSched sched s).1 t = (lrun t (localView t sched s) (slice s t)).1 ∧
    obsOf t (runSched sched s).2 = (lrun t (localView t sched s) (slice s t)).2 := by
  induction sched with
  | nil => intro s; exact ⟨rfl, rfl⟩
  | cons hd rest ih =>
    intro s
    obtain ⟨t', o⟩ := hd
    by_cases e : t' = t
    · subst e
      simp only [runSched, localView, lrun, obsOf, if_true, step_slice_own]
      exact ⟨(ih _).1, congrArg _ (ih _).2⟩
    · simp only [runSched, localView, obsOf, if_neg e]
      rw [← step_slice_other s t' t o (Ne.symm e)]
      exact ih _

theorem runReg_lookup (sched : List (Thread × Key × Val)) (tb : RTable) (k : Key) :
    ((runReg sched tb).lookup k).isSome = (sched.any (fun e => k == e.2.1) || (tb.lookup k).isSome) := by
  induction sched generalizing tb with
  | nil => simp [runReg]
  | cons hd rest ih =>
    obtain ⟨t, k', v'⟩ := hd
    rw [runReg, ih, regAtomic, List.lookup_cons, List.any_cons]
    cases k == k' <;> simp

theorem runReg_keeps (sched : List (Thread × Key × Val)) : ∀ (tb : RTable) (k : Key),
    (tb.lookup k).isSome → ((runReg sched tb).lookup k).isSome :=
  fun tb k h => by rw [runReg_lookup, h, Bool.or_true]

theorem Inv.upd {val : Fp → Val} {st : Fp → Option Val} (hI : Inv val st) (f : Fp) (x : Option Val)
    (hx : ∀ v, x = some v → v = val f) : Inv val (upd st f x) := by
  intro g v h
  by_cases e : g = f
  · subst e; rw [upd_same] at h; exact hx v h
  · rw [upd_ne _ _ e] at h; exact hI g v h

theorem evict_inv (val : Fp → Val) (s : CState) (f : Fp) (hI : Inv val s.store) :
    Inv val (evict s f).store :=
  hI.upd f none fun _ h => nomatch h

/-- without evictions an entry a thread saw is still there when it reads it -/
def Seen (fp : Thread → Fp) (s : CState) : Prop := ∀ t, s.pc t = .sawExists → (s.store (fp t)).isSome = true

section cstep
variable (val : Fp → Val) (fp : Thread → Fp)

theorem cstep_pc_of_ne (s : CState) {t t' : Thread} (h : t' ≠ t) : (cstep val fp s t).pc t' = s.pc t' := by
  unfold cstep
  split <;> (try split) <;> simp [h]

theorem cstep_store (s : CState) (t : Thread) :
    (cstep val fp s t).store = s.store ∨ (cstep val fp s t).store = upd s.store (fp t) (some (val (fp t))) := by
  unfold cstep
  split <;> (try split) <;> simp

theorem cstep_done {s : CState} {t t' : Thread} {v : Val} (h : (cstep val fp s t).pc t' = .done v) :
    s.pc t' = .done v ∨ t' = t ∧ (s.store (fp t) = some v ∨ v = val (fp t)) := by
  by_cases e : t' = t
  · subst e
    unfold cstep at h
    split at h <;> (try split at h) <;> simp_all
  · rw [cstep_pc_of_ne val fp s e] at h; exact Or.inl h

theorem cstep_sawExists {s : CState} {t t' : Thread} (h : (cstep val fp s t).pc t' = .sawExists) :
    s.pc t' = .sawExists ∧ t' ≠ t ∨ t' = t ∧ (s.store (fp t)).isSome := by
  by_cases e : t' = t
  · subst e
    unfold cstep at h
    split at h <;> (try split at h) <;> simp_all
  · rw [cstep_pc_of_ne val fp s e] at h; exact Or.inl ⟨h, e⟩

theorem cstep_inv (s : CState) (t : Thread)
    (hI : Inv val s.store) (hD : ∀ t v, s.pc t = .done v → v = val (fp t)) :
    Inv val (cstep val fp s t).store ∧ ∀ t' v, (cstep val fp s t).pc t' = .done v → v = val (fp t') := by
  refine ⟨?_, fun t' v h => ?_⟩
  · rcases cstep_store val fp s t with e | e <;> rw [e]
    · exact hI
    · exact hI.upd _ _ fun v h => (Option.some.inj h).symm
  · rcases cstep_done val fp h with h | ⟨rfl, h | h⟩
    · exact hD t' v h
    · exact hI _ _ h
    · exact h

theorem cstep_store_mono {s : CState} (t : Thread) {f : Fp} (h : (s.store f).isSome) :
    ((cstep val fp s t).store f).isSome := by
  rcases cstep_store val fp s t with e | e <;> rw [e]
  · exact h
  · by_cases e : f = fp t
    · simp [e]
    · rwa [upd_ne _ _ e]

theorem cstep_seen (s : CState) (t : Thread) (h : Seen fp s) : Seen fp (cstep val fp s t) := by
  intro t' ht'
  rcases cstep_sawExists val fp ht' with ⟨h', _⟩ | ⟨rfl, h'⟩
  · exact cstep_store_mono val fp t (h t' h')
  · exact cstep_store_mono val fp t' h'

end cstep

theorem runCacheEv_map_step (val : Fp → Val) (fp : Thread → Fp) (sched : List Thread) (s : CState) :
    runCacheEv val fp (sched.map .step) s = runCache val fp sched s := by
  induction sched generalizing s with
  | nil => rfl
  | cons t rest ih => exact ih _

theorem cstepStrict_of_seen (val : Fp → Val) (fp : Thread → Fp) (s : CState) (t : Thread) (h : Seen fp s) :
    cstepStrict val fp s t = some (cstep val fp s t) := by
  unfold cstepStrict
  split
  · rename_i hp hs
    have := h t hp
    simp [hs] at this
  · rfl

theorem runStrict_of_seen (val : Fp → Val) (fp : Thread → Fp) (sched : List Thread) (s : CState) (h : Seen fp s) :
    runStrictEv val fp (sched.map CEv.step) s = some (runCache val fp sched s) := by
  induction sched generalizing s with
  | nil => rfl
  | cons t rest ih =>
    simp only [List.map_cons, runStrictEv, runCache, cstepStrict_of_seen val fp s t h, Option.bind_some]
    exact ih _ (cstep_seen val fp s t h)

/-- runtime objects thread `t` can name independently of the other threads: its own creations and
    the objects that existed in the start state `s0` -/
def Own (s0 : State) (t : Thread) (r : Id) : Prop := r.1 = t ∨ r.2 < s0.next r.1

/-- the objects an operation names explicitly -/
def opIds : Op → List Id
  | .derive r _ => [r]
  | .enter r => [r]
  | .exit r => [r]
  | _ => []

/-- everything reachable from the slice (current runtime, saved runtimes) is `Own` -/
def ClosedSlice (s0 : State) (t : Thread) (sl : Slice) : Prop :=
  (∀ r, sl.cur = some r → Own s0 t r) ∧ (∀ r' r, some r ∈ sl.entered r' → Own s0 t r)

/-- relation between the interleaved run (`a`) and the run of `t` alone (`b`) -/
structure Rel (s0 : State) (t : Thread) (a b : State) : Prop where
  slice : Threads.slice a t = Threads.slice b t
  defaults : a.defaults = b.defaults
  handlers : ∀ r, Own s0 t r → (a.objs r).handlers = (b.objs r).handlers
  closed : ClosedSlice s0 t (Threads.slice a t)
  nextA : ∀ t', s0.next t' ≤ a.next t'

theorem rel_other (s0 : State) (t : Thread) (a b : State) (t' : Thread) (o : Op) (R : Rel s0 t a b)
    (hne : t' ≠ t) (hreg : ∀ ty hh, o ≠ .registerDefault ty hh) : Rel s0 t (step a t' o).1 b := by
  have hs := step_slice_other a t' t o (Ne.symm hne)
  have hg := step_grows a t' o
  refine ⟨hs.trans R.slice, ?_, fun r hr => ?_, hs.symm ▸ R.closed,
          fun t'' => Nat.le_trans (R.nextA t'') (hg.1 t'')⟩
  · rw [step_defaults]
    split
    · exact absurd rfl (hreg _ _)
    · exact R.defaults
  · -- `r` is not a name `t'` has yet to allocate: it is `t`'s, or it is older than the start state
    rw [hg.2 r, R.handlers r hr]
    intro e
    rcases hr with h | h
    · exact absurd (h.symm.trans e) (Ne.symm hne)
    · rw [e] at h; exact Nat.lt_of_lt_of_le h (R.nextA t')

theorem lstep_congr (t : Thread) (e1 e2 : Shared) (o : Op) (sl : Slice) (hd : e1.defaults = e2.defaults)
    (hh : ∀ r, sl.cur = some r → e1.handlers r = e2.handlers r) :
    lstep t e1 (.op o) sl = lstep t e2 (.op o) sl := by
  cases o with
  | run ty =>
    simp only [lstep]
    cases hc : sl.cur with
    | none => simp [hd]
    | some r => simp [hd, hh r hc]
  | _ => rfl

theorem lstep_closed (s0 : State) (t : Thread) (e : Shared) (o : Op) (sl : Slice)
    (hc : ClosedSlice s0 t sl) (hids : ∀ r ∈ opIds o, Own s0 t r) :
    ClosedSlice s0 t (lstep t e (.op o) sl).1 := by
  obtain ⟨h1, h2⟩ := hc
  cases o with
  | new hs | derive r hs | registerDefault ty hh | inherit p => exact ⟨h1, h2⟩
  | current | handleCur hs | run ty =>
    simp only [lstep]; split
    · exact ⟨h1, h2⟩
    · exact ⟨fun r hr => by cases hr; exact Or.inl rfl, h2⟩
  | enter r =>
    refine ⟨fun r' hr => by cases hr; exact hids r List.mem_cons_self, fun r' x hx => ?_⟩
    rcases mem_upd hx with h | h
    · rcases List.mem_cons.1 h with h | h
      · exact h1 x h.symm
      · exact h2 r x h
    · exact h2 r' x h
  | exit r =>
    simp only [lstep]; split
    · exact ⟨h1, h2⟩
    · rename_i p rest hent
      refine ⟨fun x hx => h2 r x (by cases hx; rw [hent]; exact List.mem_cons_self), fun r' x hx => ?_⟩
      rcases mem_upd hx with h | h
      · exact h2 r x (by rw [hent]; exact List.mem_cons_of_mem _ h)
      · exact h2 r' x h

theorem toLOp_of_not_inherit (s : State) (o : Op) (h : ∀ p, o ≠ .inherit p) : toLOp s o = .op o := by
  cases o with
  | inherit p => exact absurd rfl (h p)
  | _ => rfl

theorem own_step_handlers (s0 : State) (t : Thread) (a b : State) (o : Op) (R : Rel s0 t a b)
    (hids : ∀ r ∈ opIds o, Own s0 t r) (hinh : ∀ p, o ≠ .inherit p) (r : Id) (hr : Own s0 t r) :
    ((step a t o).1.objs r).handlers = ((step b t o).1.objs r).handlers := by
  have hnext : a.next t = b.next t := congrArg Slice.next R.slice
  have hd := R.defaults
  have hH := R.handlers
  have hc : (current a t).2 = (current b t).2 ∧ Own s0 t (current b t).2 ∧
      (current a t).1.next t = (current b t).1.next t ∧
      ∀ r, Own s0 t r → ((current a t).1.objs r).handlers = ((current b t).1.objs r).handlers := by
    have hcur : a.cur t = b.cur t := congrArg Slice.cur R.slice
    unfold current; rw [hcur]
    cases hb : b.cur t with
    | some c => exact ⟨rfl, R.closed.1 c (hcur.trans hb), hnext, hH⟩
    | none =>
      exact ⟨by rw [hnext], Or.inl rfl, by simp [hnext], fun r hr => alloc_handlers_congr hnext hd (hH r hr)⟩
  -- every table the step writes is built from the defaults and the tables of objects `t` names or
  -- has as current, and on these the two runs agree
  cases o with
  | inherit p => exact absurd rfl (hinh p)
  | current | run ty => exact hc.2.2.2 r hr
  | new hs => exact alloc_handlers_congr hnext (by rw [hd]) (hH r hr)
  | derive r' hs =>
    exact alloc_handlers_congr hnext (by rw [hd, hH r' (hids r' List.mem_cons_self)]) (hH r hr)
  | handleCur hs =>
    -- `handle(hs)` is `current_runtime().handle(hs)`
    obtain ⟨hid, hown, hn, hh⟩ := hc
    exact alloc_handlers_congr hn (by rw [hid, hh _ hown, current_defaults, current_defaults, hd]) (hh r hr)
  | registerDefault ty hh => exact hH r hr
  | enter r' => simpa [step] using hH r hr
  | exit r' =>
    have hent : (a.objs r').entered t = (b.objs r').entered t :=
      congrFun (congrArg Slice.entered R.slice) r'
    simp only [step, hent]
    split <;> simpa using hH r hr

theorem rel_own (s0 : State) (t : Thread) (a b : State) (o : Op) (R : Rel s0 t a b)
    (hids : ∀ r ∈ opIds o, Own s0 t r) (hinh : ∀ p, o ≠ .inherit p) :
    Rel s0 t (step a t o).1 (step b t o).1 ∧ (step a t o).2 = (step b t o).2 := by
  have ha := step_slice_own a t o
  have hb := step_slice_own b t o
  rw [toLOp_of_not_inherit _ o hinh] at ha hb
  have hl : (Threads.slice (step a t o).1 t, (step a t o).2) = (Threads.slice (step b t o).1 t, (step b t o).2) := by
    rw [← ha, ← hb, ← R.slice]
    exact lstep_congr t _ _ o _ R.defaults fun r hr => R.handlers r (R.closed.1 r hr)
  have hc := lstep_closed s0 t (shared a) o _ R.closed hids
  rw [ha] at hc
  exact ⟨⟨(Prod.mk.inj hl).1, by rw [step_defaults, step_defaults, R.defaults],
          own_step_handlers s0 t a b o R hids hinh, hc,
          fun t' => Nat.le_trans (R.nextA t') ((step_grows a t o).1 t')⟩, (Prod.mk.inj hl).2⟩

theorem alone_view (s0 : State) (t : Thread) (sched : Sched) : ∀ (a b : State), Rel s0 t a b →
    (∀ t' o, (t', o) ∈ sched → t' ≠ t → ∀ ty hh, o ≠ .registerDefault ty hh) →
    (∀ o, (t, o) ∈ sched → (∀ p, o ≠ .inherit p) ∧ ∀ r ∈ opIds o, Own s0 t r) →
    Rel s0 t (runSched sched a).1 (runSched (sched.filter (fun st => st.1 == t)) b).1 ∧
    obsOf t (runSched sched a).2 = obsOf t (runSched (sched.filter (fun st => st.1 == t)) b).2 := by
  induction sched with
  | nil => intro a b R h1 h2; exact ⟨R, rfl⟩
  | cons hd rest ih =>
    intro a b R h1 h2
    obtain ⟨t', o⟩ := hd
    have h1' := fun t'' o' hm => h1 t'' o' (List.mem_cons_of_mem _ hm)
    have h2' := fun o' hm => h2 o' (List.mem_cons_of_mem _ hm)
    by_cases e : t' = t
    · subst e
      have hh := h2 o List.mem_cons_self
      have R' := rel_own s0 t' a b o R hh.2 hh.1
      simp only [List.filter, beq_self_eq_true, runSched, obsOf, if_true]
      rw [R'.2]
      exact ⟨(ih _ _ R'.1 h1' h2').1, congrArg _ (ih _ _ R'.1 h1' h2').2⟩
    · have R' := rel_other s0 t a b t' o R e (h1 t' o List.mem_cons_self e)
      have hf : (t' == t) = false := by simp [e]
      simp only [List.filter, hf, runSched, obsOf, if_neg e]
      exact ih _ _ R' h1' h2'

end Labrea.Threads
