/-
  Lemmas about `PickleSM`.  The traversal of `encFld`/`encKids` is restated without fuel as the
  relation `Enc`; what it does to the memo (`EncSpec`) and what `decPks` makes of the emitted term
  (`Dec`) are proved by induction on `Enc`; `encFld_total` shows that the fuel suffices.
  `idx`, `hget`, `getAttr` and `setAttr` are the library's `idxOf`, `lookup`, `getElem?` and `set`
  (`idx_eq_idxOf`, `hget_eq_lookup`, `getAttr_eq`, `setAttr_eq`), and their lemmas come from there.
  The last part follows an `Overloaded` through the two hooks and `register`.
  Used by `LabreaProps/C20.lean`.
-/
import LabreaModel.PickleSM
namespace Labrea.Pickle

theorem idx_eq_idxOf (m : List Id) (i : Id) : idx m i = m.idxOf i := by
  induction m with
  | nil => rfl
  | cons a as ih => simp [idx, List.idxOf_cons, ih]

theorem hget_eq_lookup (h : Heap) (i : Id) : hget h i = h.lookup i := by
  induction h with
  | nil => rfl
  | cons p rest ih =>
    obtain ⟨j, o⟩ := p
    by_cases c : j = i
    · simp [hget, c]
    · simp [hget, List.lookup_cons, ih, c, beq_eq_false_iff_ne.mpr (Ne.symm c)]

theorem idx_lt_of_mem {m : List Id} {i : Id} (h : i ∈ m) : idx m i < m.length :=
  idx_eq_idxOf m i ▸ List.idxOf_lt_length_of_mem h

theorem idx_append_of_mem {m : List Id} {i : Id} (e : List Id) (h : i ∈ m) :
    idx (m ++ e) i = idx m i := by
  simp [idx_eq_idxOf, List.idxOf_append, h]

theorem get_idx {m : List Id} {i : Id} (h : i ∈ m) : m[idx m i]? = some i := by
  rw [idx_eq_idxOf, List.getElem?_eq_getElem (List.idxOf_lt_length_of_mem h), List.getElem_idxOf]

theorem idx_of_get {m : List Id} {k : Nat} {i : Id} (nd : m.Nodup) (h : m[k]? = some i) :
    idx m i = k := by
  obtain ⟨lt, rfl⟩ := List.getElem?_eq_some_iff.mp h
  rw [idx_eq_idxOf, nd.idxOf_getElem]

theorem idxOf_inj {α : Type} [BEq α] [LawfulBEq α] {l : List α} {a b : α} (hb : b ∈ l)
    (e : l.idxOf a = l.idxOf b) : a = b := by
  have lb := List.idxOf_lt_length_of_mem hb
  have la : l.idxOf a < l.length := e ▸ lb
  rw [← List.getElem_idxOf la, ← List.getElem_idxOf lb]
  simp only [e]

theorem idx_inj {m : List Id} {i j : Id} (hj : j ∈ m) (e : idx m i = idx m j) : i = j :=
  idxOf_inj hj (by rwa [idx_eq_idxOf, idx_eq_idxOf] at e)

theorem hget_mem {h : Heap} {i : Id} {o : Obj} (e : hget h i = some o) : (i, o) ∈ h := by
  obtain ⟨l₁, l₂, rfl, _⟩ := List.lookup_eq_some_iff.mp (hget_eq_lookup h i ▸ e)
  simp

theorem hget_isSome {h : Heap} {i : Id} : (hget h i).isSome = true ↔ ∃ o, (i, o) ∈ h := by
  simp [hget_eq_lookup, List.lookup_isSome_iff]

theorem memo_bound {h : Heap} {m : List Id} (nd : m.Nodup)
    (dom : ∀ a ∈ m, (hget h a).isSome = true) : m.length ≤ h.length := by
  have := nd.length_le_of_subset (l₂ := h.map (·.1)) fun a ha => by
    obtain ⟨o, ho⟩ := hget_isSome.mp (dom a ha)
    exact List.mem_map.mpr ⟨_, ho, rfl⟩
  simpa using this

section Traversal
variable {h : Heap} {ns : Namespace}

theorem Reach.trans {a b c : Id} (h1 : Reach h a b) (h2 : Reach h b c) : Reach h a c := by
  induction h2 with
  | refl => exact h1
  | step _ ho hk ih => exact Reach.step ih ho hk

theorem Reach.child {i j : Id} {o : Obj} (ho : hget h i = some o)
    (hk : Fld.ref j ∈ (getstate i o).kids) : Reach h i j :=
  Reach.step (Reach.refl i) ho hk

/-- `save` without fuel, on a list of fields: saving `xs` one after the other from memo `m`
    emits `ps` and leaves memo `m'`.  A single field is a one-element list. -/
inductive Enc (h : Heap) (ns : Namespace) : List Id → List Fld → List Pk → List Id → Prop where
  | nil {m} : Enc h ns m [] [] m
  | cons {m x p m₁ xs ps m₂} : Enc h ns m [x] [p] m₁ → Enc h ns m₁ xs ps m₂ →
      Enc h ns m (x :: xs) (p :: ps) m₂
  | sc {m v} : Enc h ns m [.sc v] [.sc v] m
  | back {m i} : i ∈ m → Enc h ns m [.ref i] [.back (idx m i)] m
  | glob {m i o n} : i ∉ m → hget h i = some o → getstate i o = ⟨.func n, []⟩ → ns n = some i →
      Enc h ns m [.ref i] [.glob n] (m ++ [i])
  | new {m i o ps m'} : i ∉ m → hget h i = some o → (∀ n, (getstate i o).head ≠ .func n) →
      Enc h ns (m ++ [i]) (getstate i o).kids ps m' →
      Enc h ns m [.ref i] [.new (getstate i o).head ps] m'

theorem Enc.of_encKids {enc1 : List Id → Fld → Except PErr (Pk × List Id)}
    (H1 : ∀ {m x p m'}, enc1 m x = .ok (p, m') → Enc h ns m [x] [p] m')
    {xs : List Fld} {m m' : List Id} {ps : List Pk} (e : encKids enc1 m xs = .ok (ps, m')) :
    Enc h ns m xs ps m' := by
  induction xs generalizing m ps with
  | nil => cases e; exact .nil
  | cons x xs ih =>
    simp only [encKids] at e
    split at e
    · cases e
    · rename_i e1
      split at e
      · cases e
      · rename_i e2
        cases e
        exact .cons (H1 e1) (ih e2)

theorem Enc.of_encFld {f : Nat} {m m' : List Id} {x : Fld} {p : Pk}
    (e : encFld h ns f m x = .ok (p, m')) : Enc h ns m [x] [p] m' := by
  induction f generalizing m x p m' with
  | zero => cases e
  | succ f ih =>
    cases x with
    | sc v => cases e; exact .sc
    | lock k => cases e
    | ref i =>
      simp only [encFld] at e
      split at e
      · rename_i hin; cases e; exact .back hin
      · rename_i hin
        split at e
        · cases e
        · rename_i o ho
          split at e
          · rename_i n hhd hkids
            split at e
            · cases e
            · rename_i j hj
              split at e
              · rename_i hji
                cases e
                exact .glob hin ho (by rw [← hhd, ← hkids]) (hji ▸ hj)
              · cases e
          · cases e
          · rename_i hnf1 hnf2
            split at e
            · cases e
            · rename_i ek
              cases e
              refine .new hin ho (fun n hn => ?_) (Enc.of_encKids ih ek)
              cases hk : (getstate i o).kids with
              | nil => exact hnf1 n hn hk
              | cons a as => exact hnf2 n a as hn hk

structure EncSpec (h : Heap) (ns : Namespace) (m : List Id) (srcs : List Fld) (m' : List Id) :
    Prop where
  ext : ∃ e, m' = m ++ e ∧ ∀ a ∈ e, (∃ j, Fld.ref j ∈ srcs ∧ Reach h j a) ∧ ∃ o, hget h a = some o ∧
    (∀ j, Fld.ref j ∈ (getstate a o).kids → j ∈ m') ∧ ∀ n, (getstate a o).head = .func n → ns n = some a
  nodup : m.Nodup → m'.Nodup
  xin : ∀ j, Fld.ref j ∈ srcs → j ∈ m'

theorem EncSpec.refl {m : List Id} {srcs : List Fld}
    (hx : ∀ j, Fld.ref j ∈ srcs → j ∈ m) : EncSpec h ns m srcs m :=
  ⟨⟨[], by simp⟩, id, hx⟩

theorem EncSpec.prefix {m m' : List Id} {srcs : List Fld}
    (s : EncSpec h ns m srcs m') : m <+: m' := by
  obtain ⟨e, rfl, _⟩ := s.ext
  exact List.prefix_append m e

theorem EncSpec.cons {m m₁ m₂ : List Id} {x : Fld} {xs : List Fld}
    (s1 : EncSpec h ns m [x] m₁) (s2 : EncSpec h ns m₁ xs m₂) : EncSpec h ns m (x :: xs) m₂ := by
  obtain ⟨ea, rfl, ra⟩ := s1.ext
  obtain ⟨eb, rfl, rb⟩ := s2.ext
  refine ⟨⟨ea ++ eb, by simp, fun a ha => ?_⟩, fun nd => s2.nodup (s1.nodup nd), fun j hj => ?_⟩
  · rcases List.mem_append.mp ha with ha | ha
    · obtain ⟨⟨j, hj, r⟩, o, ho, kids, fn⟩ := ra a ha
      exact ⟨⟨j, List.mem_singleton.mp hj ▸ List.mem_cons_self, r⟩, o, ho,
        fun j hj => List.mem_append_left _ (kids j hj), fn⟩
    · obtain ⟨⟨j, hj, r⟩, rest⟩ := rb a ha
      exact ⟨⟨j, List.mem_cons_of_mem _ hj, r⟩, rest⟩
  · rcases List.mem_cons.mp hj with hj | hj
    · exact List.mem_append_left _ (s1.xin j (hj ▸ List.mem_singleton.mpr rfl))
    · exact s2.xin j hj

theorem nodup_push {m : List Id} {i : Id} (nd : m.Nodup) (hin : i ∉ m) : (m ++ [i]).Nodup := by
  simpa [List.nodup_append, nd] using fun a ha (e : a = i) => hin (e ▸ ha)

theorem EncSpec.visit {m m' : List Id} {i : Id} {o : Obj}
    (hin : i ∉ m) (ho : hget h i = some o)
    (fn : ∀ n, (getstate i o).head = .func n → ns n = some i)
    (sk : EncSpec h ns (m ++ [i]) (getstate i o).kids m') : EncSpec h ns m [.ref i] m' := by
  obtain ⟨e, rfl, re⟩ := sk.ext
  refine ⟨⟨i :: e, by simp, fun a ha => ?_⟩, fun nd => sk.nodup (nodup_push nd hin), fun j hj => ?_⟩
  · rcases List.mem_cons.mp ha with rfl | ha
    · exact ⟨⟨a, by simp, .refl a⟩, o, ho, sk.xin, fn⟩
    · obtain ⟨⟨j, hj, r⟩, rest⟩ := re a ha
      exact ⟨⟨i, by simp, (Reach.child ho hj).trans r⟩, rest⟩
  · simp at hj; simp [hj]

theorem Enc.spec {m m' : List Id} {xs : List Fld} {ps : List Pk}
    (e : Enc h ns m xs ps m') : EncSpec h ns m xs m' := by
  induction e with
  | nil => exact .refl (by simp)
  | cons _ _ ih1 ih2 => exact ih1.cons ih2
  | sc => exact .refl (by simp)
  | back hin => exact .refl (by simpa using hin)
  | glob hin ho hg hn => exact .visit hin ho (by simp [hg, hn]) (hg ▸ .refl (by simp))
  | new hin ho hnf _ ih => exact .visit hin ho (fun n hn => absurd hn (hnf n)) ih

/-! Ids are renamed by `idx M`, where `M` is the memo at the END of the whole traversal; every
  intermediate memo is a prefix of it, so the position of an object never changes once it is in. -/

/-- every finished object of `D` is the image of the object the memo names -/
def Sound (h : Heap) (ns : Namespace) (lo : Nat) (m' : List Id) (D : Heap) : Prop :=
  ∀ k o', (k, o') ∈ D → lo ≤ k ∧ k < m'.length ∧ ∃ i o, m'[k]? = some i ∧ hget h i = some o ∧
    o' = viaState (idx m') i o ∧ (∀ j, Fld.ref j ∈ (getstate i o).kids → j ∈ m') ∧
    (∀ n, (getstate i o).head = .func n → ns n = some i)

def Cover (lo hi : Nat) (D : Heap) : Prop := ∀ k, lo ≤ k → k < hi → ∃ o', (k, o') ∈ D

theorem Sound.weaken {lo lo' : Nat} {m' : List Id} {D : Heap}
    (s : Sound h ns lo m' D) (le : lo' ≤ lo) : Sound h ns lo' m' D := fun k o' hk =>
  have ⟨h1, rest⟩ := s k o' hk
  ⟨Nat.le_trans le h1, rest⟩

theorem Sound.append {h : Heap} {ns : Namespace} {lo : Nat} {m' : List Id} {D1 D2 : Heap}
    (s1 : Sound h ns lo m' D1) (s2 : Sound h ns lo m' D2) : Sound h ns lo m' (D1 ++ D2) := by
  intro k o' hk
  rcases List.mem_append.mp hk with hk | hk
  · exact s1 k o' hk
  · exact s2 k o' hk

theorem Cover.append {a b c : Nat} {D1 D2 : Heap} (c1 : Cover a b D1) (c2 : Cover b c D2) :
    Cover a c (D1 ++ D2) := by
  intro k h1 h2
  by_cases hb : k < b
  · obtain ⟨o', ho⟩ := c1 k h1 hb
    exact ⟨o', List.mem_append_left _ ho⟩
  · obtain ⟨o', ho⟩ := c2 k (by omega) h2
    exact ⟨o', List.mem_append_right _ ho⟩

def Dec (h : Heap) (ns : Namespace) (ns' : Defined) (M m : List Id) (xs : List Fld) (ps : List Pk)
    (m' : List Id) : Prop :=
  ∀ done, ∃ D, decPks ns' ps ⟨m.length, done⟩ =
      .ok (xs.map (renFld (idx M)), ⟨m'.length, done ++ D⟩) ∧
    Sound h ns m.length M D ∧ Cover m.length m'.length D

theorem Sound.nil {lo : Nat} {M : List Id} : Sound h ns lo M [] :=
  fun _ _ hk => nomatch hk

theorem Cover.nil {lo : Nat} : Cover lo lo [] :=
  fun _ h1 h2 => absurd h2 (Nat.not_lt.mpr h1)

theorem Sound.push {M m m' : List Id} {i : Id} {o : Obj} {D : Heap}
    (ho : hget h i = some o) (fn : ∀ n, (getstate i o).head = .func n → ns n = some i)
    (sk : EncSpec h ns (m ++ [i]) (getstate i o).kids m') (hM : m' <+: M)
    (s : Sound h ns (m ++ [i]).length M D) (c : Cover (m ++ [i]).length m'.length D) :
    Sound h ns m.length M (D ++ [(m.length, viaState (idx M) i o)]) ∧
      Cover m.length m'.length (D ++ [(m.length, viaState (idx M) i o)]) := by
  obtain ⟨e, rfl, _⟩ := sk.ext
  obtain ⟨t, rfl⟩ := hM
  refine ⟨(s.weaken (by simp)).append fun k o' hk => ?_, fun k h1 h2 => ?_⟩
  · obtain ⟨rfl, rfl⟩ := Prod.mk.inj (List.mem_singleton.mp hk)
    exact ⟨Nat.le_refl _, by simp, i, o, by simp, ho, rfl,
      fun j hj => List.mem_append_left _ (sk.xin j hj), fn⟩
  · by_cases hk : k = m.length
    · subst hk
      exact ⟨_, List.mem_append_right _ (List.mem_singleton.mpr rfl)⟩
    · obtain ⟨o', ho'⟩ := c k (by simp; omega) h2
      exact ⟨o', List.mem_append_left _ ho'⟩

theorem idx_push {M m : List Id} {i : Id} (hM : m ++ [i] <+: M) (hin : i ∉ m) : idx M i = m.length := by
  obtain ⟨t, rfl⟩ := hM
  simp [idx_eq_idxOf, List.idxOf_append, hin]

theorem decPk_of_decPks {ns' : Defined} {p : Pk} {st st' : DecSt} {x : Fld}
    (e : decPks ns' [p] st = .ok ([x], st')) : decPk ns' p st = .ok (x, st') := by
  simp only [decPks] at e
  split at e
  · cases e
  · rename_i hd; cases e; exact hd

theorem Enc.dec {ns' : Defined}
    (hrecv : ∀ n i, ns n = some i → ns' n = true) {M m m' : List Id} {xs : List Fld} {ps : List Pk}
    (e : Enc h ns m xs ps m') (hM : m' <+: M) : Dec h ns ns' M m xs ps m' := by
  induction e with
  | nil => exact fun done => ⟨[], by simp [decPks], .nil, .nil⟩
  | sc => exact fun done => ⟨[], by simp [decPks, decPk, renFld], .nil, .nil⟩
  | back hin =>
    obtain ⟨t, rfl⟩ := hM
    exact fun done =>
      ⟨[], by simp [decPks, decPk, renFld, idx_lt_of_mem hin, idx_append_of_mem t hin], .nil, .nil⟩
  | cons e1 e2 ih1 ih2 =>
    intro done
    obtain ⟨D1, d1, s1, c1⟩ := ih1 (e2.spec.prefix.trans hM) done
    obtain ⟨D2, d2, s2, c2⟩ := ih2 hM (done ++ D1)
    refine ⟨D1 ++ D2, ?_, s1.append (s2.weaken e1.spec.prefix.length_le), c1.append c2⟩
    simp only [decPks, decPk_of_decPks d1, d2, List.map_cons, List.append_assoc]
  | @glob m i o n hin ho hg hn =>
    intro done
    have hi := idx_push hM hin
    refine ⟨_, ?_, Sound.push (D := []) ho (by simp [hg, hn]) (hg ▸ .refl (by simp)) hM .nil .nil⟩
    simp [decPks, decPk, hrecv n i hn, renFld, hi, viaState, hg, renObj, setstate]
  | @new m i o ps m' hin ho hnf ek ih =>
    intro done
    obtain ⟨D, d, s, c⟩ := ih hM done
    have hi := idx_push (ek.spec.prefix.trans hM) hin
    rw [List.length_append, List.length_singleton] at d
    refine ⟨_, ?_, Sound.push ho (fun n hn => absurd hn (hnf n)) ek.spec hM s c⟩
    simp [decPks, decPk, d, renFld, hi, viaState, renObj]

/-- `fuel`: `f` exceeds the number of heap cells not yet in the memo; by `nodup` and `dom` the memo
    is no longer than the heap, so `f` is positive -/
structure Memo (h : Heap) (f : Nat) (m : List Id) : Prop where
  fuel : h.length < f + m.length
  nodup : m.Nodup
  dom : ∀ a ∈ m, (hget h a).isSome = true

theorem Memo.ext {f : Nat} {m m' : List Id} {srcs : List Fld}
    (hm : Memo h f m) (s : EncSpec h ns m srcs m') : Memo h f m' := by
  obtain ⟨e, rfl, re⟩ := s.ext
  refine ⟨by have := hm.fuel; simp; omega, s.nodup hm.nodup, fun a ha => ?_⟩
  rcases List.mem_append.mp ha with ha | ha
  · exact hm.dom a ha
  · obtain ⟨_, o, ho, _⟩ := re a ha
    simp [ho]

def Fld.ok (h : Heap) : Fld → Prop
  | .ref j => (hget h j).isSome = true
  | .lock _ => False
  | .sc _ => True

theorem Picklable.kids_ok {r i : Id} {o : Obj} (wf : Picklable h ns r)
    (ho : hget h i = some o) : ∀ x ∈ (getstate i o).kids, x.ok h := by
  intro x hx
  cases x with
  | sc v => trivial
  | ref j => exact wf.closed i o j ho hx
  | lock k => exact wf.nolock i o k ho hx

theorem encKids_total {f : Nat}
    (T1 : ∀ m x, Memo h f m → x.ok h → ∃ p m', encFld h ns f m x = .ok (p, m')) :
    ∀ xs m, Memo h f m → (∀ x ∈ xs, x.ok h) →
      ∃ ps m', encKids (encFld h ns f) m xs = .ok (ps, m') := by
  intro xs
  induction xs with
  | nil => exact fun m _ _ => ⟨[], m, rfl⟩
  | cons x xs ih =>
    intro m hm hx
    obtain ⟨p, m1, e1⟩ := T1 m x hm (hx x List.mem_cons_self)
    obtain ⟨ps, m2, e2⟩ := ih m1 (hm.ext (Enc.of_encFld e1).spec)
      fun y hy => hx y (List.mem_cons_of_mem _ hy)
    exact ⟨p :: ps, m2, by simp only [encKids, e1, e2]⟩

theorem encFld_total {r : Id} (wf : Picklable h ns r) :
    ∀ f m x, Memo h f m → x.ok h → ∃ p m', encFld h ns f m x = .ok (p, m') := by
  intro f
  induction f with
  | zero =>
    -- pigeonhole: a memo of distinct heap objects is no longer than the heap
    intro m x hm _
    have := memo_bound hm.nodup hm.dom
    have := hm.fuel
    omega
  | succ f ih =>
    intro m x hm hx
    cases x with
    | sc v => exact ⟨_, _, rfl⟩
    | lock k => exact hx.elim
    | ref i =>
      by_cases hin : i ∈ m
      · exact ⟨.back (idx m i), m, by simp [encFld, hin]⟩
      · obtain ⟨o, ho⟩ := Option.isSome_iff_exists.mp hx
        by_cases hf : ∃ n, (getstate i o).head = .func n
        · obtain ⟨n, hn⟩ := hf
          obtain ⟨hns, hk⟩ := wf.byref i o n ho hn
          exact ⟨.glob n, m ++ [i], by simp [encFld, hin, ho, hn, hk, hns]⟩
        · have hm1 : Memo h f (m ++ [i]) :=
            ⟨by have := hm.fuel; simp; omega, nodup_push hm.nodup hin,
              by simpa [ho, or_imp, forall_and] using hm.dom⟩
          obtain ⟨ps, m', ek⟩ := encKids_total ih _ _ hm1 (wf.kids_ok ho)
          refine ⟨.new (getstate i o).head ps, m', ?_⟩
          simp only [encFld, hin, if_false, ho]
          split
          · exact absurd ⟨_, ‹_›⟩ hf
          · exact absurd ⟨_, ‹_›⟩ hf
          · simp only [ek]

theorem encodeM_memo {r : Id} {p : Pk} {memo : List Id}
    (e : encodeM h ns r = .ok (p, memo)) :
    memo.Nodup ∧ (∀ i, Reach h r i ↔ i ∈ memo) ∧
      ∀ i o n, i ∈ memo → hget h i = some o → (getstate i o).head = .func n → ns n = some i := by
  have sp := (Enc.of_encFld e).spec
  obtain ⟨e0, he0, new⟩ := sp.ext
  rw [List.nil_append] at he0
  subst he0
  refine ⟨sp.nodup List.nodup_nil, fun i => ⟨fun hr => ?_, fun hi => ?_⟩, fun i o n hi ho => ?_⟩
  · induction hr with
    | refl => exact sp.xin r (by simp)
    | step _ ho hk ih =>
      obtain ⟨_, o1, ho1, kids, _⟩ := new _ ih
      cases ho.symm.trans ho1
      exact kids _ hk
  · obtain ⟨⟨j, hj, hr⟩, _⟩ := new i hi
    cases List.mem_singleton.mp hj
    exact hr
  · obtain ⟨_, o1, ho1, _, fn⟩ := new i hi
    cases ho.symm.trans ho1
    exact fn n

theorem encode_sound {h : Heap} {ns : Namespace} {ns' : Defined} {r : Id} {p : Pk} {memo : List Id}
    (hrecv : ∀ n i, ns n = some i → ns' n = true) (e : encodeM h ns r = .ok (p, memo)) :
    ∃ h', decode ns' p = .ok (h', idx memo r) ∧ Iso (idx memo) h r h' (idx memo r) ∧
      (∀ i, Reach h r i ↔ i ∈ memo) ∧ memo.Nodup ∧
      (∀ i o n, i ∈ memo → hget h i = some o → (getstate i o).head = .func n → ns n = some i) := by
  obtain ⟨nd, reach_iff, fn⟩ := encodeM_memo e
  obtain ⟨D, d, snd, cov⟩ := (Enc.of_encFld e).dec hrecv (List.prefix_refl memo) []
  refine ⟨D, ?_, ⟨rfl, fun i j hi hj => ?_, fun i hi => ?_, fun k o' hk => ?_⟩, reach_iff, nd, fn⟩
  · have d := decPk_of_decPks d
    simp only [List.length_nil, List.nil_append, renFld] at d
    simp [decode, d]
  · exact idx_inj ((reach_iff j).mp hj)
  · -- some binding of `D` has the key `idx memo i` (`cov`); the first such is what `hget` returns,
    -- and it is the right object whichever it is (`snd`)
    have hi := (reach_iff i).mp hi
    obtain ⟨o', ho'⟩ := Option.isSome_iff_exists.mp
      (hget_isSome.mpr (cov (idx memo i) (Nat.zero_le _) (idx_lt_of_mem hi)))
    obtain ⟨_, _, i', o, gi, ho, eq, _⟩ := snd _ _ (hget_mem ho')
    cases (get_idx hi).symm.trans gi
    exact ⟨o, ho, eq ▸ ho'⟩
  · obtain ⟨_, _, i, o, gi, _⟩ := snd _ _ (hget_mem hk)
    exact ⟨i, (reach_iff i).mpr (List.mem_of_getElem? gi), idx_of_get nd gi⟩

theorem encodeM_total {h : Heap} {ns : Namespace} {r : Id} (wf : Picklable h ns r) :
    ∃ p memo, encodeM h ns r = .ok (p, memo) :=
  encFld_total wf (h.length + 1) [] (.ref r) ⟨by simp, List.nodup_nil, by simp⟩ wf.root

theorem encode_of_encodeM {h : Heap} {ns : Namespace} {r : Id} {p : Pk} {memo : List Id}
    (e : encodeM h ns r = .ok (p, memo)) : encode h ns r = .ok p := by
  simp [encode, e]

theorem encodeM_of_encode {h : Heap} {ns : Namespace} {r : Id} {p : Pk}
    (e : encode h ns r = .ok p) : ∃ memo, encodeM h ns r = .ok (p, memo) := by
  unfold encode at e
  split at e
  · rename_i p' memo he
    cases e
    exact ⟨memo, he⟩
  · cases e

end Traversal

theorem getAttr_eq : ∀ (attrs : List String) (kids : List Fld) (q : String),
    getAttr attrs kids q = if q ∈ attrs then kids[attrs.idxOf q]? else none
  | [], _, _ => by simp [getAttr]
  | _ :: _, [], _ => by simp [getAttr]
  | a :: as, k :: ks, q => by
    by_cases c : a = q
    · simp [getAttr, c]
    · simp [getAttr, c, Ne.symm c, List.idxOf_cons, beq_eq_false_iff_ne.mpr c, getAttr_eq as ks q]

theorem setAttr_eq : ∀ (attrs : List String) (kids : List Fld) (q : String) (v : Fld),
    setAttr attrs kids q v = if q ∈ attrs then kids.set (attrs.idxOf q) v else kids
  | [], _, _, _ => by simp [setAttr]
  | _ :: _, [], _, _ => by simp [setAttr]
  | a :: as, k :: ks, q, v => by
    by_cases c : a = q
    · simp [setAttr, c]
    · simp [setAttr, c, Ne.symm c, List.idxOf_cons, beq_eq_false_iff_ne.mpr c, setAttr_eq as ks q v]
      split <;> rfl

theorem getAttr_map (f : Fld → Fld) (attrs : List String) (kids : List Fld) (q : String) :
    getAttr attrs (kids.map f) q = (getAttr attrs kids q).map f := by
  simp only [getAttr_eq, List.getElem?_map]
  split <;> rfl

theorem setAttr_map (f : Fld → Fld) (attrs : List String) (kids : List Fld) (q : String) (v : Fld) :
    (setAttr attrs kids q v).map f = setAttr attrs (kids.map f) q (f v) := by
  simp only [setAttr_eq]
  split <;> simp [List.map_set]

theorem setAttr_setAttr (attrs : List String) (kids : List Fld) (q : String) (v w : Fld) :
    setAttr attrs (setAttr attrs kids q v) q w = setAttr attrs kids q w := by
  simp only [setAttr_eq]
  split <;> simp [List.set_set]

theorem getAttr_mem (attrs : List String) (kids : List Fld) (q : String) (v : Fld)
    (e : getAttr attrs kids q = some v) : v ∈ kids := by
  rw [getAttr_eq] at e
  split at e
  · exact List.mem_of_getElem? e
  · cases e

theorem setAttr_self (attrs : List String) (kids : List Fld) (q : String) (v : Fld)
    (e : getAttr attrs kids q = some v) : setAttr attrs kids q v = kids := by
  rw [getAttr_eq] at e
  rw [setAttr_eq]
  split at e
  · obtain ⟨lt, rfl⟩ := List.getElem?_eq_some_iff.mp e
    simp [*]
  · cases e

theorem getAttr_setAttr (attrs : List String) (kids : List Fld) (q q' : String) (v : Fld) :
    getAttr attrs (setAttr attrs kids q v) q' =
      if q' = q then (getAttr attrs kids q).map fun _ => v else getAttr attrs kids q' := by
  simp only [getAttr_eq, setAttr_eq]
  by_cases hq : q ∈ attrs
  · by_cases e : q' = q
    · subst e
      simp only [hq, if_true, List.getElem?_set_self']
      rfl
    · have : attrs.idxOf q ≠ attrs.idxOf q' := fun c => e (idxOf_inj hq c.symm)
      simp [hq, e, this]
  · by_cases e : q' = q
    · simp [hq, e]
    · simp [hq, e]

theorem dictPairs_map (f : Fld → Fld) : ∀ (items : List Fld),
    dictPairs (items.map f) = (dictPairs items).map fun kv => (f kv.1, f kv.2)
  | [] => by simp [dictPairs]
  | [_] => by simp [dictPairs]
  | k :: v :: rest => by simp [dictPairs, dictPairs_map f rest]

theorem dictPairs_unPairs : ∀ (t : List (Fld × Fld)), dictPairs (unPairs t) = t
  | [] => by simp [unPairs, dictPairs]
  | (k, v) :: rest => by simp [unPairs, dictPairs, dictPairs_unPairs rest]

theorem viaState_overloaded (σ : Id → Nat) (ov : Id) (attrs : List String) (kids : List Fld) {x : Fld}
    (hl : getAttr attrs kids "_lock" = some x) :
    viaState σ ov ⟨.inst "Overloaded" attrs, kids⟩ =
      ⟨.inst "Overloaded" attrs, setAttr attrs (kids.map (renFld σ)) "_lock" (.lock ov)⟩ := by
  simp [viaState, getstate, renObj, setstate, setAttr_map, renFld, getAttr_setAttr, getAttr_map, hl,
    setAttr_setAttr]

/-- an object made by `Overloaded.__init__` in this process comes back with the very same lock key -/
theorem viaState_ownLock (σ : Id → Nat) (i : Id) (o : Obj) (own : OwnLock i o) :
    viaState σ i o = renObj σ o := by
  obtain ⟨hd, kids⟩ := o
  cases hd with
  | inst cls attrs =>
    by_cases c : cls = "Overloaded"
    · subst c
      have own : getAttr attrs kids "_lock" = some (.lock i) := by simpa [OwnLock] using own
      rw [viaState_overloaded σ i attrs kids own, renObj, setAttr_self]
      rw [getAttr_map, own]
      rfl
    · simp [viaState, getstate, setstate, renObj, c]
  | _ => rfl

theorem iso_overloaded {σ : Id → Nat} {h h' : Heap} {r r' ov d : Id} {attrs : List String}
    {kids items : List Fld} (iso : Iso σ h r h' r') (reach : Reach h r ov)
    (io : IsOverloaded h ov attrs kids d items) :
    IsOverloaded h' (σ ov) attrs (setAttr attrs (kids.map (renFld σ)) "_lock" (.lock ov))
      (σ d) (items.map (renFld σ)) := by
  obtain ⟨k, hk⟩ := io.lock
  obtain ⟨o, ho, hc⟩ := iso.obj ov reach
  cases io.obj.symm.trans ho
  rw [viaState_overloaded σ ov attrs kids hk] at hc
  -- the dict is a child of the Overloaded (through the state `getstate` exposes)
  have hchild : Fld.ref d ∈ (getstate ov ⟨.inst "Overloaded" attrs, kids⟩).kids :=
    getAttr_mem attrs _ "lookup" _ (by simp [getstate, getAttr_setAttr, io.lookup])
  obtain ⟨od, hod, hcd⟩ := iso.obj d (reach.step io.obj hchild)
  cases io.dict.symm.trans hod
  -- `hcd`: a dict goes through both hooks untouched, by computation
  exact ⟨hc, ⟨ov, by simp [getAttr_setAttr, getAttr_map, hk]⟩,
    by simp [getAttr_setAttr, getAttr_map, io.lookup, renFld], hcd⟩

theorem table_of_isOverloaded {h : Heap} {ov d : Id} {attrs : List String} {kids items : List Fld}
    (io : IsOverloaded h ov attrs kids d items) : table h ov = some (dictPairs items) := by
  simp [table, io.obj, io.lookup, io.dict]

-- `freshId h` is one more than `(0 :: keys of h).max?`, unfolded
theorem lt_freshId {h : Heap} {k : Id} {o : Obj} (hm : (k, o) ∈ h) : k < freshId h :=
  Nat.lt_succ_of_le <| (List.max?_le_iff (xs := 0 :: h.map (·.1)) rfl).1 (Nat.le_refl _) k
    (List.mem_cons_of_mem _ (List.mem_map.mpr ⟨_, hm, rfl⟩))

theorem register_extends {h : Heap} {ov d : Id} {attrs : List String} {kids items : List Fld}
    (io : IsOverloaded h ov attrs kids d items) (key val : Fld) :
    ∃ h'', register h ov key val = .ok h'' ∧
      table h'' ov = some (pairsInsert key val (dictPairs items)) ∧
      (∀ i, i ≠ ov → i ≠ freshId h → hget h'' i = hget h i) := by
  obtain ⟨k, hk⟩ := io.lock
  have ht := table_of_isOverloaded io
  have hne : ov ≠ freshId h := Nat.ne_of_lt (lt_freshId (hget_mem io.obj))
  refine ⟨(ov, ⟨.inst "Overloaded" attrs, setAttr attrs kids "lookup" (.ref (freshId h))⟩)
      :: (freshId h, ⟨.dict, unPairs (pairsInsert key val (dictPairs items))⟩) :: h,
    by simp [register, io.obj, hk, ht], ?_, ?_⟩
  · simp [table, hget, getAttr_setAttr, io.lookup, hne, dictPairs_unPairs]
  · intro i h1 h2
    simp [hget, Ne.symm h1, Ne.symm h2]

theorem picklableB_sound {h : Heap} {ns : Namespace} {r : Id} (c : picklableB h ns r = true) :
    Picklable h ns r := by
  simp only [picklableB, Bool.and_eq_true, List.all_eq_true] at c
  obtain ⟨hr, hall⟩ := c
  refine ⟨hr, ?_, ?_, ?_⟩
  · intro i o j ho hj
    have := (hall (i, o) (hget_mem ho)).1 _ hj
    simpa using this
  · intro i o k ho hk
    have := (hall (i, o) (hget_mem ho)).1 _ hk
    simp at this
  · intro i o n ho hn
    have := (hall (i, o) (hget_mem ho)).2
    simp only [hn] at this
    simpa using this

theorem viaState_head (σ : Id → Nat) (i : Id) (o : Obj) : (viaState σ i o).head = o.head := by
  obtain ⟨hd, kids⟩ := o
  cases hd with
  | inst cls attrs =>
    by_cases c : cls = "Overloaded"
    · subst c
      simp only [viaState, getstate, renObj, setstate, if_true]
      split <;> rfl
    · simp [viaState, getstate, setstate, renObj, c]
  | _ => rfl

/-! ### concrete graphs used as witnesses (non-vacuity examples of `LabreaProps/C20.lean`)

  `@dataset def f(a=Option('A'))` / `d = dataset(_f)` with one registered overload, reduced to the
  attributes that matter.  Object 5 is the user function; 0 the Dataset (`__wrapped__` → 5);
  1 its `Overloaded` (lock registered under its own id); 2 the lookup dict `{'one': <Option>}`;
  3/4 `FunctionApplication` / `Value` holding the function; 6 the registered `Option`;
  7 the `MemoryCache` with one warm entry (8 = its dict, 9 = the cached list). -/

def exHeap : Heap := [
  (0, ⟨.inst "Dataset" ["overloads", "cache", "__qualname__", "__wrapped__"],
        [.ref 1, .ref 7, .sc (.str "f"), .ref 5]⟩),
  (1, ⟨.inst "Overloaded" ["dispatch", "lookup", "default", "_lock"],
        [.sc (.str "K"), .ref 2, .ref 3, .lock 1]⟩),
  (2, ⟨.dict, [.sc (.str "one"), .ref 6]⟩),
  (3, ⟨.inst "FunctionApplication" ["func"], [.ref 4]⟩),
  (4, ⟨.inst "Value" ["value"], [.ref 5]⟩),
  (5, ⟨.func "m.f", []⟩),
  (6, ⟨.inst "Option" ["key"], [.sc (.str "C")]⟩),
  (7, ⟨.inst "MemoryCache" ["_cache"], [.ref 8]⟩),
  (8, ⟨.dict, [.sc (.str "[{\"A\": 1}]"), .ref 9]⟩),
  (9, ⟨.list, [.sc (.str "f"), .sc (.int 1)]⟩)]

/-- explicit form `d = dataset(f)`: the name `m.f` still denotes the function -/
def nsExplicit : Namespace := nsOf [("m.f", 5), ("m.d", 0)]
/-- decorator form `@dataset def f`: the name `m.f` now denotes the Dataset -/
def nsDecorator : Namespace := nsOf [("m.f", 0)]
def recvDefined : Defined := definedOf ["m.f", "m.d"]

/-- what `loads(dumps(d))` is expected to build (ids = memo numbers, finished objects first) -/
def exCopy : Heap := [
  (3, ⟨.inst "Option" ["key"], [.sc (.str "C")]⟩),
  (2, ⟨.dict, [.sc (.str "one"), .ref 3]⟩),
  (6, ⟨.func "m.f", []⟩),
  (5, ⟨.inst "Value" ["value"], [.ref 6]⟩),
  (4, ⟨.inst "FunctionApplication" ["func"], [.ref 5]⟩),
  (1, ⟨.inst "Overloaded" ["dispatch", "lookup", "default", "_lock"],
        [.sc (.str "K"), .ref 2, .ref 4, .lock 1]⟩),
  (9, ⟨.list, [.sc (.str "f"), .sc (.int 1)]⟩),
  (8, ⟨.dict, [.sc (.str "[{\"A\": 1}]"), .ref 9]⟩),
  (7, ⟨.inst "MemoryCache" ["_cache"], [.ref 8]⟩),
  (0, ⟨.inst "Dataset" ["overloads", "cache", "__qualname__", "__wrapped__"],
        [.ref 1, .ref 7, .sc (.str "f"), .ref 6]⟩)]

theorem exRecv : ∀ n i, nsExplicit n = some i → recvDefined n = true := by
  intro n i hn
  by_cases c1 : n = "m.f"
  · subst c1; decide
  · by_cases c2 : n = "m.d"
    · subst c2; decide
    · have : nsExplicit n = none := by
        simp [nsExplicit, nsOf, Ne.symm c1, Ne.symm c2]
      rw [this] at hn; cases hn

theorem exReachOv : Reach exHeap 0 1 := Reach.child (rfl : hget exHeap 0 = some _) (by decide)

theorem exReachFn : Reach exHeap 0 5 :=
  ((exReachOv.step (rfl : hget exHeap 1 = some _) (by decide : Fld.ref 3 ∈ _)).step
    (rfl : hget exHeap 3 = some _) (by decide : Fld.ref 4 ∈ _)).step
    (rfl : hget exHeap 4 = some _) (by decide : Fld.ref 5 ∈ _)

end Labrea.Pickle
