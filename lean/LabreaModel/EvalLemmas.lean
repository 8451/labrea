/-
  A small Hoare-style logic for the evaluation monad `M` and the first structural facts about the
  interpreter: state relations preserved by every run (`Spec`), and the shape of failures produced
  by the `EvaluateRequest` wrapper.
-/
import LabreaModel.MonadLemmas
namespace Labrea

/-- every terminating run of `m` from `s` ends in a state related to `s` by `R` -/
structure Spec {α} (R : St → St → Prop) (P : Err → Prop) (m : M α) : Prop where
  run : ∀ s r s', m s = some (r, s') → R s s' ∧ ∀ err, r = .error err → P err

/-- a predicate on failures that every failure the interpreter raises itself satisfies and that the
    library's re-raising (`raise X(...) from err`: a new outermost frame) preserves -/
structure ErrPred (P : Err → Prop) : Prop where
  other : ∀ c, P (errOther c)
  cons : ∀ f e, P e → P (f :: e)
  single : ∀ f : Frame, f.cls ≠ .evaluation → P [f]
  /-- nothing is raised with an empty chain (for a `P` that allows it, anything goes) -/
  ofNil : P [] → ∀ e, P e

/-- a reflexive, transitive relation on states that tolerates every event other than a log record
    (whether log records are tolerated is a separate hypothesis of the interpreter lemmas: `LogOk`) -/
structure StRel (R : St → St → Prop) : Prop where
  refl : ∀ s, R s s
  trans : ∀ {a b c}, R a b → R b c → R a c
  emit : ∀ s ev, ev.isLog = false → R s { s with events := ev :: s.events }

/-- either logging is switched off by the context manager, or `R` tolerates log records -/
def LogOk (env : Env) (R : St → St → Prop) : Prop :=
  env.logCtxOff = true ∨ ∀ s m b, R s { s with events := Event.log m b :: s.events }

section
variable {R : St → St → Prop} {P : Err → Prop} (hR : StRel R) (hP : ErrPred P)
include hR hP

theorem pres_step {α} {m : M α} (h : ∀ s, ∃ a s', m s = some (.ok a, s') ∧ R s s') : Spec R P m := by
  refine ⟨fun s r s'' hm => ?_⟩
  obtain ⟨a, s', e, hr⟩ := h s
  rw [e] at hm; cases hm
  exact ⟨hr, fun _ h => by cases h⟩

theorem pres_pure {α} (a : α) : Spec R P (pure a : M α) := pres_step hR hP fun s => ⟨a, s, rfl, hR.refl s⟩

theorem pres_emit (ev : Event) (hq : ev.isLog = false) : Spec R P (emit ev) :=
  pres_step hR hP fun s => ⟨(), _, rfl, hR.emit s ev hq⟩

theorem pres_getSt : Spec R P getSt := pres_step hR hP fun s => ⟨s, s, rfl, hR.refl s⟩

theorem pres_raise {α} {e : Err} (he : P e) : Spec R P (raise e : M α) := by
  refine ⟨fun s r s' h => ?_⟩
  simp only [raise_run] at h
  cases h; exact ⟨hR.refl _, fun _ h => by cases h; exact he⟩

theorem pres_outOfFuel {α} : Spec R P (outOfFuel : M α) := ⟨fun _ _ _ h => by cases h⟩

theorem pres_bind {α β} {m : M α} {f : α → M β} (hm : Spec R P m) (hf : ∀ a, Spec R P (f a)) :
    Spec R P (m >>= f) := by
  refine ⟨fun s r s' h => ?_⟩
  rw [bind_run] at h
  split at h
  · cases h
  · cases h
    have := hm.run _ _ _ ‹_›
    exact ⟨this.1, fun err h => by cases h; exact this.2 _ rfl⟩
  · have h1 := hm.run _ _ _ ‹_›
    have h2 := (hf _).run _ _ _ h
    exact ⟨hR.trans h1.1 h2.1, h2.2⟩

/-- `try m except err: k err` — the handler may rely on `P err` -/
theorem pres_handle {α} {m : M α} {k : Err → M α} (hm : Spec R P m) (hk : ∀ e, P e → Spec R P (k e)) :
    Spec R P (handle m k) := by
  refine ⟨fun s r s' h => ?_⟩
  unfold handle at h
  split at h
  · have h1 := hm.run _ _ _ ‹_›
    have h2 := (hk _ (h1.2 _ rfl)).run _ _ _ h
    exact ⟨hR.trans h1.1 h2.1, h2.2⟩
  · exact hm.run _ _ _ h

theorem pres_mapM' {α β} {f : α → M β} (hf : ∀ a, Spec R P (f a)) : ∀ xs, Spec R P (mapM' f xs)
  | [] => pres_pure hR hP _
  | x :: xs => pres_bind hR hP (hf x) fun _ => pres_bind hR hP (pres_mapM' hf xs) fun _ => pres_pure hR hP _

theorem pres_forM' {α} {f : α → M Unit} (hf : ∀ a, Spec R P (f a)) : ∀ xs, Spec R P (forM' f xs)
  | [] => pres_pure hR hP _
  | x :: xs => pres_bind hR hP (hf x) fun _ => pres_forM' hf xs

theorem pres_filterM' {α} {f : α → M Bool} (hf : ∀ a, Spec R P (f a)) : ∀ xs, Spec R P (filterM' f xs)
  | [] => pres_pure hR hP _
  | x :: xs => pres_bind hR hP (hf x) fun _ => pres_bind hR hP (pres_filterM' hf xs) fun _ => pres_pure hR hP _

theorem pres_emitAll : ∀ evs, (∀ e ∈ evs, e.isLog = false) → Spec R P (emitAll evs)
  | [], _ => pres_pure hR hP _
  | e :: es, h => pres_bind hR hP (pres_emit hR hP e (h e (by simp))) fun _ =>
      pres_emitAll es fun x hx => h x (by simp [hx])

end

theorem ErrPred.getFailure {P : Err → Prop} (hP : ErrPred P) : P cacheGetFailure := hP.other _

end Labrea

namespace Labrea

/-- discharge `P e` for the failures the interpreter raises -/
syntax "err_ok" term:max : tactic
macro_rules
  | `(tactic| err_ok $hP) => `(tactic|
    first
      | assumption
      | exact ErrPred.other $hP _
      | exact ErrPred.getFailure $hP
      | exact ErrPred.cons $hP _ _ (by assumption)
      | exact ErrPred.cons $hP _ _ (ErrPred.other $hP _)
      | exact ErrPred.single $hP _ (by simp [keyNotFound]))

/-- `pres_auto hR hP [h₁, …]` proves `Spec R P m` along the structure of the `do` block `m`: the rule of the logic
    that fits the head of `m` (a leaf, `>>=`, `handle`, a list combinator), `match` and `if` by cases, and
    `apply hᵢ` for what the given facts and rules speak of.  Rules are matched up to reducible unfolding only:
    with default transparency, refuting a rule that does not fit means running the block symbolically. -/
syntax "pres_auto" term:max term:max "[" term,* "]" : tactic
macro_rules
  | `(tactic| pres_auto $hR $hP [$hs,*]) => `(tactic|
    repeat' first
      | with_reducible first
        | apply pres_bind $hR $hP
        | exact pres_pure $hR $hP _
        $[| apply $hs]*
        | exact pres_raise $hR $hP (by err_ok $hP)
        | exact pres_emit $hR $hP _ rfl
        | exact pres_outOfFuel $hR $hP
        | exact pres_getSt $hR $hP
        | apply pres_handle $hR $hP
        | apply pres_mapM' $hR $hP
        | apply pres_forM' $hR $hP
        | apply pres_filterM' $hR $hP
      | split
      | intro _)

section
variable {R : St → St → Prop} {P : Err → Prop} (hR : StRel R) (hP : ErrPred P)
include hR hP

omit hR hP in
mutual
theorem callV_quiet (β : String → List V → List (String × V) → Except String V) :
    ∀ (f : V) (a : List V) (k : List (String × V)), ∀ e ∈ (callV β f a k).2, e.isLog = false
  | .fn f pos kw0, args, kw => by
    intro e he
    simp only [callV] at he
    cases hb : builtin f (pos ++ args) <;> simp [hb] at he
    subst he; rfl
  | .comp fs, [x], [] => by
    intro e he
    unfold callV at he
    exact callChain_quiet β fs x e he
  | .none, _, _ | .bool _, _, _ | .int _, _, _ | .str _, _, _ | .list _, _, _ | .tuple _, _, _ | .set _, _, _
  | .dict _, _, _ | .app _ _ _, _, _ | .missing, _, _ => by
    intro e he; simp [callV] at he
  | .comp _, [], _ | .comp _, _ :: _ :: _, _ | .comp _, [_], _ :: _ => by
    intro e he; simp [callV] at he
theorem callChain_quiet (β : String → List V → List (String × V) → Except String V) :
    ∀ (fs : List V) (x : V), ∀ e ∈ (callChain β fs x).2, e.isLog = false
  | [], x => by intro e he; simp [callChain] at he
  | f :: fs, x => by
    intro e he
    unfold callChain at he
    have h1 := callV_quiet β f [x] []
    split at he
    · rename_i y evs heq
      have h2 := callChain_quiet β fs y
      rw [heq] at h1
      simp only [List.mem_append] at he
      rcases he with he | he
      · exact h1 e he
      · exact h2 e he
    · rename_i err evs heq
      rw [heq] at h1
      exact h1 e he
end

theorem pres_call (env : Env) (f : V) (a : List V) (k : List (String × V)) : Spec R P (call env f a k) := by
  unfold call
  have h := pres_emitAll hR hP _ (callV_quiet env.β f a k)
  pres_auto hR hP [h]

theorem pres_readKey (key : String) (o : V) : Spec R P (readKey key o) := by
  unfold readKey
  pres_auto hR hP []

theorem pres_existsKey (key : String) (o : V) : Spec R P (existsKey key o) := by
  unfold existsKey
  pres_auto hR hP [pres_readKey hR hP]

theorem pres_getKey (key : String) (o : V) : Spec R P (getKey key o) := by
  unfold getKey
  pres_auto hR hP [pres_readKey hR hP]

theorem pres_resolveM (n id : Nat) (x o : V) (b : Bool) : Spec R P (resolveM n id x o b) := by
  unfold resolveM
  have h : ∀ ks : List String, Spec R P (emitAll (ks.map Event.read)) :=
    fun ks => pres_emitAll hR hP _ (by simp [Event.isLog])
  pres_auto hR hP [h]

theorem pres_wrapEvaluate {α} (id : Nat) {m : M α} (hm : Spec R P m) : Spec R P (wrapEvaluate id m) := by
  unfold wrapEvaluate
  apply pres_handle hR hP hm
  intro e he
  split
  · split
    · exact pres_raise hR hP he
    · exact pres_raise hR hP (hP.cons _ _ he)
  · exact pres_raise hR hP (hP.ofNil he _)

theorem pres_pseudo {α} (op : Op) (pid : Nat) {m : M α} (hm : Spec R P m) : Spec R P (pseudo op pid m) := by
  unfold pseudo
  pres_auto hR hP [hm, pres_wrapEvaluate hR hP]

theorem pres_insufficientFrom {α} (id : Nat) {m : M α} (hm : Spec R P m) : Spec R P (insufficientFrom id m) := by
  unfold insufficientFrom
  pres_auto hR hP [hm]

variable {run : Run} (hrun : ∀ op e o, Spec R P (run op e o))
include hrun

theorem pres_unionOver (op : Op) (xs : List Expr) (o : V) : Spec R P (unionOver run op xs o) := by
  unfold unionOver
  pres_auto hR hP [hrun]

theorem pres_optionOp (env : Env) (n : Nat) (self : Expr) (id : Nat) (key : String) (dflt dom : Option Expr)
    (op : Op) (o : V) : Spec R P (optionOp env run n self id key dflt dom op o) := by
  unfold optionOp
  extract_lets enforceDomain domOp templateOp
  have hE : ∀ v, Spec R P (enforceDomain v) := by
    intro v; simp only [enforceDomain]; pres_auto hR hP [hrun, pres_call hR hP]
  have hD : ∀ op', Spec R P (domOp op') := by
    intro op'; simp only [domOp]; pres_auto hR hP [hrun]
  have hT : ∀ op' raw, Spec R P (templateOp op' raw) := by
    intro op' raw; simp only [templateOp]; pres_auto hR hP [hrun]
  clear_value enforceDomain domOp templateOp
  cases op <;> simp only [] <;>
    pres_auto hR hP [hrun, hE, hD, hT, pres_readKey hR hP, pres_existsKey hR hP, pres_getKey hR hP, pres_resolveM hR hP]

theorem pres_bindOp (id : Nat) (x : Expr) {k : V → M Expr} (hk : ∀ v, Spec R P (k v)) (op : Op) (o : V) :
    Spec R P (bindOp run id x k op o) := by
  unfold bindOp
  cases op <;> simp only [] <;> pres_auto hR hP [hrun, hk, pres_insufficientFrom hR hP]

theorem pres_chooseCase (env : Env) (id : Nat) (d : Expr) (dflt : Option Expr) (o v : V) :
    ∀ (seen : List Expr) (cases : List (Expr × Expr)), Spec R P (chooseCase env run id d dflt o v seen cases)
  | seen, [] => by
    unfold chooseCase
    pres_auto hR hP []
  | seen, (c, r) :: rest => by
    unfold chooseCase
    pres_auto hR hP [hrun, pres_call hR hP, pres_chooseCase env id d dflt o v (seen ++ [c]) rest]

theorem pres_switchLookup (id : Nat) (d : Expr) (lookup : List (V × Expr)) (dflt : Option Expr) (o : V) :
    Spec R P (switchLookup run id d lookup dflt o) := by
  unfold switchLookup
  pres_auto hR hP [hrun]

theorem pres_switchOp (id : Nat) (d : Expr) (lookup : List (V × Expr)) (dflt : Option Expr) (op : Op) (o : V) :
    Spec R P (switchOp run id d lookup dflt op o) := by
  unfold switchOp
  cases op <;> simp only [] <;>
    pres_auto hR hP [hrun, pres_insufficientFrom hR hP, pres_switchLookup hR hP hrun]

theorem pres_coalesceDelegate (op : Op) (o : V) :
    ∀ (last : Option Err) (ms : List Expr), (∀ e, last = some e → P e) → Spec R P (coalesceDelegate run op o last ms)
  | last, [], hl => by
    unfold coalesceDelegate
    split
    · exact pres_raise hR hP (hl _ rfl)
    · exact pres_raise hR hP (hP.other _)
  | last, m :: rest, hl => by
    unfold coalesceDelegate
    apply pres_handle hR hP
    · pres_auto hR hP [hrun]
    · intro e he
      split
      · exact pres_coalesceDelegate op o (some e) rest (fun e' h => by cases h; exact he)
      · exact pres_raise hR hP he

theorem pres_coalesceOp (ms : List Expr) (op : Op) (o : V) : Spec R P (coalesceOp run ms op o) := by
  unfold coalesceOp
  have h := fun op' => pres_coalesceDelegate hR hP hrun op' o Option.none ms (fun _ h => by cases h)
  cases op <;> simp only [] <;> pres_auto hR hP [hrun, h]

theorem pres_mapAssignments (its : List (String × Expr)) (o : V) : Spec R P (mapAssignments run its o) := by
  unfold mapAssignments
  pres_auto hR hP [hrun]

omit hrun in
theorem pres_mapElement (id : Nat) (x : Expr) (a : List (String × V)) : Spec R P (mapElement id x a) := by
  unfold mapElement
  pres_auto hR hP []

theorem pres_mapRows (id : Nat) (x : Expr) (o : V) (asg : List (List (String × V))) :
    Spec R P (mapRows run id x o asg) := by
  unfold mapRows
  pres_auto hR hP [hrun, pres_mapElement hR hP, pres_pseudo hR hP]

theorem pres_mapOp (id : Nat) (x : Expr) (its : List (String × Expr)) (op : Op) (o : V) :
    Spec R P (mapOp run id x its op o) := by
  unfold mapOp
  cases op <;> simp only [] <;>
    pres_auto hR hP [hrun, pres_mapElement hR hP, pres_mapAssignments hR hP hrun, pres_mapRows hR hP hrun]

theorem pres_templateOp (n id : Nat) (t : String) (params : List (String × Expr)) (op : Op) (o : V) :
    Spec R P (templateOp run n id t params op o) := by
  unfold templateOp
  extract_lets plainKeys keyOp required
  have hK : ∀ op', Spec R P (keyOp op') := by
    intro op'; simp only [keyOp]; pres_auto hR hP [hrun]
  clear_value keyOp
  cases op <;> simp only [] <;> pres_auto hR hP [hrun, hK, pres_resolveM hR hP]

theorem pres_withOptionsOp (x : Expr) (p : V) (force : Bool) (op : Op) (o : V) :
    Spec R P (withOptionsOp run x p force op o) := by
  unfold withOptionsOp
  extract_lets mixed provides filtered
  have hprov : ∀ k, Spec R P (provides k) := by
    intro k; simp only [provides]; pres_auto hR hP [pres_existsKey hR hP, pres_getKey hR hP]
  clear_value provides
  have hfilt : ∀ ks, Spec R P (filtered ks) := by
    intro ks; simp only [filtered]; pres_auto hR hP [hprov]
  clear_value filtered
  cases op <;> simp only [] <;> pres_auto hR hP [hrun, hfilt]

theorem pres_computationOp (env : Env) (x : Expr) (effects : List Expr) (op : Op) (o : V) :
    Spec R P (computationOp env run x effects op o) := by
  unfold computationOp
  cases op <;> simp only [] <;> pres_auto hR hP [hrun, pres_call hR hP]

theorem pres_applicationOp (env : Env) (id : Nat) (f : Expr) (args : List Expr) (kw : List (String × Expr))
    (partial_ : Bool) (op : Op) (o : V) : Spec R P (applicationOp env run id f args kw partial_ op o) := by
  unfold applicationOp
  cases op <;> simp only [] <;>
    pres_auto hR hP [hrun, pres_pseudo hR hP, pres_call hR hP, pres_unionOver hR hP hrun]

theorem pres_populate (o : V) : ∀ (d : Nat) (acc : V) (ms : List (String × Expr)), Spec R P (populate run o d acc ms) := by
  -- the recursion of `populate` is lexicographic in (fuel, members): fuel outside, members inside
  intro d
  induction d with
  | zero =>
    intro acc ms
    cases ms <;> unfold populate
    · exact pres_pure hR hP _
    · exact pres_outOfFuel hR hP
  | succ d ihd =>
    intro acc ms
    induction ms generalizing acc with
    | nil => unfold populate; exact pres_pure hR hP _
    | cons m rest ih => unfold populate; pres_auto hR hP [hrun, ih, ihd]

theorem pres_namespaceOp (n id : Nat) (key : String) (members : List (String × Expr)) (op : Op) (o : V) :
    Spec R P (namespaceOp run n id key members op o) := by
  unfold namespaceOp
  cases op <;> simp only [] <;> pres_auto hR hP [hrun, pres_populate hR hP hrun, pres_unionOver hR hP hrun]

theorem pres_consumeIter (o : V) : ∀ (d : Nat) (es : List Expr), Spec R P (consumeIter run o d es) := by
  intro d
  induction d with
  | zero =>
    intro es
    cases es <;> unfold consumeIter
    · exact pres_pure hR hP _
    · exact pres_outOfFuel hR hP
  | succ d ihd =>
    intro es
    induction es with
    | nil => unfold consumeIter; exact pres_pure hR hP _
    | cons y rest ih => unfold consumeIter; pres_auto hR hP [hrun, ih, ihd]

/-- everything except `Cached`, whose backend operations do change the state, preserves any `StRel` -/
theorem pres_nodeOp (env : Env) (hlog : LogOk env R) (n : Nat) (hcached : ∀ x c op o, Spec R P (cachedOp env run x c op o))
    (op : Op) (e : Expr) (o : V) : Spec R P (nodeOp env run n op e o) := by
  cases e <;> unfold nodeOp <;> simp only []
  case option => exact pres_optionOp hR hP hrun ..
  case apply i x f =>
    cases op <;> simp only [] <;>
      pres_auto hR hP [hrun, pres_call hR hP, pres_consumeIter hR hP hrun, pres_pseudo hR hP,
        pres_mapAssignments hR hP hrun, pres_mapRows hR hP hrun]
  case bind =>
    apply pres_bindOp hR hP hrun
    pres_auto hR hP []
  case switch => exact pres_switchOp hR hP hrun ..
  case caseWhen =>
    exact pres_pseudo hR hP _ _ (pres_bindOp hR hP hrun _ _ (fun _ => pres_chooseCase hR hP hrun ..) _ _)
  case coalesce => exact pres_coalesceOp hR hP hrun ..
  case map => exact pres_mapOp hR hP hrun ..
  case template => exact pres_templateOp hR hP hrun ..
  case withOptions => exact pres_withOptionsOp hR hP hrun ..
  case cached => exact hcached ..
  case logged =>
    cases op <;> simp only []
    · rcases hlog with hoff | hl
      · simp only [hoff, if_true]; pres_auto hR hP [hrun]
      · have hle : ∀ m b, Spec R P (emit (Event.log m b)) := fun m b => pres_step hR hP fun s => ⟨(), _, rfl, hl s m b⟩
        pres_auto hR hP [hrun, hle]
    all_goals exact hrun ..
  case computation => exact pres_computationOp hR hP hrun ..
  case funApp => exact pres_applicationOp hR hP hrun ..
  case partialApp => exact pres_applicationOp hR hP hrun ..
  case «namespace» => exact pres_namespaceOp hR hP hrun ..
  all_goals first | exact hrun .. | cases op <;> simp only [] <;> pres_auto hR hP [hrun, pres_unionOver hR hP hrun]

omit hrun in
theorem pres_evBody (env : Env) (hlog : LogOk env R) (n : Nat) (ih : ∀ op e o, Spec R P (ev env n op e o))
    (hc : ∀ x c op o, Spec R P (cachedOp env (ev env n) x c op o)) (op : Op) (e : Expr) (o : V) :
    Spec R P (evBody env n op e o) := by
  have hn := pres_nodeOp hR hP ih env hlog n hc op e o
  unfold evBody
  cases op <;> simp only [] <;> pres_auto hR hP [hn, pres_wrapEvaluate hR hP]

omit hrun in
/-- the interpreter preserves `R` as soon as `Cached` does (for every `run` that does) -/
theorem pres_ev (env : Env) (hlog : LogOk env R)
    (hc : ∀ run : Run, (∀ op e o, Spec R P (run op e o)) → ∀ x c op o, Spec R P (cachedOp env run x c op o)) :
    ∀ (n : Nat) (op : Op) (e : Expr) (o : V), Spec R P (ev env n op e o)
  | 0, op, e, o => pres_outOfFuel hR hP
  | n + 1, op, e, o => by
    rw [ev_succ]
    have ih := pres_ev env hlog hc n
    exact pres_bind hR hP (pres_emit hR hP _ rfl) fun _ => pres_evBody hR hP env hlog n ih (hc _ ih) op e o

end
end Labrea

namespace Labrea

/-! ### Caching switched off by the context manager: the store is never touched -/

/-- caches and fault scripts are unchanged -/
def SameCS (s s' : St) : Prop := s'.caches = s.caches ∧ s'.scripts = s.scripts

theorem sameCS_rel : StRel SameCS where
  refl _ := ⟨rfl, rfl⟩
  trans h1 h2 := ⟨h2.1.trans h1.1, h2.2.trans h1.2⟩
  emit _ _ _ := ⟨rfl, rfl⟩

theorem truePred : ErrPred (fun _ => True) where
  other _ := trivial
  cons _ _ _ := trivial
  single _ _ := trivial
  ofNil _ _ := trivial

theorem pres_cachedOp_ctxOff {P : Err → Prop} (hP : ErrPred P) {env : Env} (hoff : env.cacheCtxOff = true) {run : Run}
    (hrun : ∀ op e o, Spec SameCS P (run op e o)) (x : Expr) (c : Nat) (op : Op) (o : V) :
    Spec SameCS P (cachedOp env run x c op o) := by
  have hR := sameCS_rel
  unfold cachedOp cacheLookup existsReq getReq setReq cacheDisabled
  simp only [hoff, if_true, M.pure_bind]
  cases op <;> simp only [] <;> pres_auto hR hP [hrun]

/-- **C16, `cache_off_no_io`.** Under `with labrea.cache.disabled():` no operation of any expression,
    on any options, from any state, reads or writes a cache entry or consumes a backend call:
    the store after the run is the store before it. -/
theorem ev_ctxOff_sameStore {env : Env} (hoff : env.cacheCtxOff = true) (n : Nat) (op : Op) (e : Expr) (o : V)
    (s : St) (r : Except Err V) (s' : St) (h : ev env n op e o s = some (r, s')) :
    s'.caches = s.caches ∧ s'.scripts = s.scripts :=
  ((pres_ev sameCS_rel truePred env (Or.inr fun _ _ _ => ⟨rfl, rfl⟩) (fun _ hrun => pres_cachedOp_ctxOff truePred hoff hrun) n op e o).run s r s' h).1


/-! ### Any relation closed under store updates: the interpreter with caching on -/

/-- a state relation that also tolerates the cache backend's own updates -/
structure CacheRel (R : St → St → Prop) : Prop extends StRel R where
  setCache : ∀ s c es, R s (s.setCacheEntries c es)
  setScripts : ∀ s sc, R s { s with scripts := sc }

section
variable {R : St → St → Prop} {P : Err → Prop} (hC : CacheRel R) (hP : ErrPred P)
include hC hP

theorem pres_nextFault (c : Nat) : Spec R P (nextFault c) := by
  refine pres_step hC.toStRel hP fun s => ?_
  unfold nextFault
  split
  · exact ⟨_, _, rfl, hC.setScripts _ _⟩
  · exact ⟨_, _, rfl, hC.refl _⟩

theorem pres_blindFault (c : Nat) : Spec R P (blindFault c) := by
  refine pres_step hC.toStRel hP fun s => ?_
  unfold blindFault
  split
  · exact ⟨_, _, rfl, hC.setScripts _ _⟩
  · exact ⟨_, _, rfl, hC.refl _⟩

theorem pres_forgetEntry (c : Nat) (fp : V) : Spec R P (forgetEntry c fp) :=
  pres_step hC.toStRel hP fun s => ⟨(), _, rfl, hC.setCache _ _ _⟩

theorem pres_storeEntry (c : Nat) (fp v : V) : Spec R P (storeEntry c fp v) :=
  pres_bind hC.toStRel hP (pres_step hC.toStRel hP fun s => ⟨(), _, rfl, hC.setCache _ _ _⟩)
    fun _ => pres_emit hC.toStRel hP _ rfl

theorem pres_lookupStore (c : Nat) (fp : V) (what : String) : Spec R P (lookupStore c fp what) := by
  unfold lookupStore
  pres_auto hC.toStRel hP []

theorem pres_fpItems (o : V) : ∀ ks, Spec R P (fpItems o ks)
  | [] => pres_pure hC.toStRel hP _
  | k :: ks => by
    unfold fpItems
    pres_auto hC.toStRel hP [pres_getKey hC.toStRel hP, pres_fpItems o ks]

variable {run : Run} (hrun : ∀ op e o, Spec R P (run op e o))
include hrun

theorem pres_fingerprintOf (x : Expr) (o : V) : Spec R P (fingerprintOf run x o) := by
  unfold fingerprintOf
  pres_auto hC.toStRel hP [hrun, pres_fpItems hC hP]

theorem pres_cacheDisabled (env : Env) (o : V) : Spec R P (cacheDisabled env run o) := by
  unfold cacheDisabled
  pres_auto hC.toStRel hP [hrun]

theorem pres_backendGet (env : Env) (x : Expr) (c : Nat) (o : V) : Spec R P (backendGet env run x c o) := by
  unfold backendGet
  pres_auto hC.toStRel hP [pres_fingerprintOf hC hP hrun, pres_lookupStore hC hP, pres_nextFault hC hP,
    pres_forgetEntry hC hP, pres_blindFault hC hP]

theorem pres_backendExists (env : Env) (x : Expr) (c : Nat) (o : V) : Spec R P (backendExists env run x c o) := by
  unfold backendExists
  pres_auto hC.toStRel hP [pres_fingerprintOf hC hP hrun, pres_lookupStore hC hP, pres_nextFault hC hP,
    pres_forgetEntry hC hP, pres_blindFault hC hP]

theorem pres_backendSet (env : Env) (x : Expr) (c : Nat) (o v : V) : Spec R P (backendSet env run x c o v) := by
  unfold backendSet
  pres_auto hC.toStRel hP [pres_fingerprintOf hC hP hrun, pres_nextFault hC hP, pres_storeEntry hC hP]

theorem pres_cachedOp (env : Env) (x : Expr) (c : Nat) (op : Op) (o : V) : Spec R P (cachedOp env run x c op o) := by
  unfold cachedOp cacheLookup existsReq getReq setReq
  cases op <;> simp only [] <;>
    pres_auto hC.toStRel hP [hrun, pres_cacheDisabled hC hP hrun, pres_backendGet hC hP hrun,
      pres_backendExists hC hP hrun, pres_backendSet hC hP hrun]

omit hrun in
/-- every run of the interpreter satisfies `R` / `P`, caching on or off -/
theorem spec_ev (env : Env) (hlog : LogOk env R) (n : Nat) (op : Op) (e : Expr) (o : V) : Spec R P (ev env n op e o) :=
  pres_ev hC.toStRel hP env hlog (fun _ hrun => pres_cachedOp hC hP hrun env) n op e o

omit hrun in
theorem spec_evBody (env : Env) (hlog : LogOk env R) (n : Nat) (op : Op) (e : Expr) (o : V) : Spec R P (evBody env n op e o) :=
  pres_evBody hC.toStRel hP env hlog n (spec_ev hC hP env hlog n) (pres_cachedOp hC hP (spec_ev hC hP env hlog n) env) op e o

end

/-- the event log only grows -/
def Ext (s s' : St) : Prop := ∃ l, s'.events = l ++ s.events

theorem ext_rel : CacheRel Ext where
  refl := fun _ => ⟨[], rfl⟩
  trans := fun ⟨l1, h1⟩ ⟨l2, h2⟩ => ⟨l2 ++ l1, by rw [h2, h1, List.append_assoc]⟩
  emit := fun _ ev _ => ⟨[ev], rfl⟩
  setCache := fun s c es => ⟨[], by unfold St.setCacheEntries; split <;> rfl⟩
  setScripts := fun _ _ => ⟨[], rfl⟩

theorem ext_log (env : Env) : LogOk env Ext := Or.inr fun _ m b => ⟨[Event.log m b], rfl⟩

end Labrea
