/-
  Lemmas about the `(tail, rest)` pipelines of LabreaModel/PipelineLL.lean, for LabreaProps/C13.lean.
  `+` is built from the constructor `init`, which drops an empty `rest`.  That changes no observation
  that sees `Identity` as a unit (`hom_add`: `evaluate`, `keys`, `explain` of a sum, for any operands;
  `keys` and `explain` are treated once, as a `KeyFold`).  And `steps`, iteration without the empty
  pipeline's placeholder, determines the pipeline (`steps_injective`), so equalities of pipelines
  follow from `steps (p + q) = steps p ++ steps q`.
-/
import LabreaModel.PipelineLL
namespace Labrea.PipelineLL
namespace Pipeline
variable {Ω α : Type}

theorem exists_mem_map {β γ : Type} {f : β → γ} {l : List β} {P : γ → Prop} :
    (∃ r ∈ l.map f, P r) ↔ ∃ s ∈ l, P (f s) :=
  ⟨fun ⟨_, hr, h⟩ => by obtain ⟨s, hs, rfl⟩ := List.mem_map.1 hr; exact ⟨s, hs, h⟩,
   fun ⟨s, hs, h⟩ => ⟨f s, List.mem_map_of_mem hs, h⟩⟩

theorem forall_getElem_cons {β γ : Type} (R : β → γ → Prop) (a : β) (l : List β) (b : γ) (m : List γ) :
    (∀ i (h : i < (a :: l).length) (h' : i < (b :: m).length), R (a :: l)[i] (b :: m)[i]) ↔
      R a b ∧ ∀ i (h : i < l.length) (h' : i < m.length), R l[i] m[i] := by
  constructor
  · intro H
    exact ⟨H 0 (by simp) (by simp), fun i h h' => H (i + 1) (by simpa using h) (by simpa using h')⟩
  · rintro ⟨h0, hs⟩ (_ | i) h h'
    · exact h0
    · exact hs i (by simpa using h) (by simpa using h')

theorem add_def (p q : Pipeline Ω α) : p + q = add p q := rfl

theorem add_single (p : Pipeline Ω α) (t : Step Ω α) :
    p + single t = if t.isIdentity then p else init t (some p) := rfl

theorem add_cons (p r : Pipeline Ω α) (t : Step Ω α) : p + cons t r = (p + r).addStep t := rfl

theorem empty_iff (p : Pipeline Ω α) : p.empty = true ↔ p = .single .identity := by
  cases p with
  | single t => cases t <;> simp [empty, Step.isIdentity]
  | cons t r => simp [empty]

theorem init_none (t : Step Ω α) : init t none = .single t := rfl

theorem init_of_empty (t : Step Ω α) {r : Pipeline Ω α} (h : r.empty = true) :
    init t (some r) = .single t := by
  simp [init, h]

theorem init_of_not_empty (t : Step Ω α) {r : Pipeline Ω α} (h : r.empty = false) :
    init t (some r) = .cons t r := by
  simp [init, h]

theorem wf_init (t : Step Ω α) (r : Option (Pipeline Ω α)) (h : ∀ q, r = some q → q.WF) :
    (init t r).WF := by
  cases r with
  | none => trivial
  | some q =>
    cases hq : q.empty
    · rw [init_of_not_empty t hq]; exact ⟨hq, h q rfl⟩
    · rw [init_of_empty t hq]; trivial

theorem wf_new : (new : Pipeline Ω α).WF := trivial

theorem wf_addStep {p : Pipeline Ω α} (hp : p.WF) (s : Step Ω α) : (p.addStep s).WF :=
  wf_init s (some p) (by rintro q ⟨⟩; exact hp)

theorem wf_add {p : Pipeline Ω α} (hp : p.WF) (q : Pipeline Ω α) : (p + q).WF := by
  induction q with
  | single t =>
    rw [add_single]
    split
    · exact hp
    · exact wf_addStep hp t
  | cons t r ih => exact wf_addStep ih t

@[simp] theorem iter_ne_nil (p : Pipeline Ω α) : p.iter ≠ [] := by
  cases p <;> simp [iter]

theorem iter_injective : ∀ {p q : Pipeline Ω α}, p.iter = q.iter → p = q
  | .single t, .single u, h => by simpa [iter] using h
  | .single t, .cons u s, h => by simpa [iter] using congrArg List.length h
  | .cons t r, .single u, h => by simpa [iter] using congrArg List.length h
  | .cons t r, .cons u s, h => by
    obtain ⟨hrs, htu⟩ := List.append_inj' h rfl
    rw [iter_injective hrs, List.singleton_inj.1 htu]

theorem steps_of_not_empty {p : Pipeline Ω α} (h : p.empty = false) : p.steps = p.iter := by
  simp [steps, h]

theorem steps_of_empty {p : Pipeline Ω α} (h : p.empty = true) : p.steps = [] := by
  simp [steps, h]

theorem steps_eq_nil_iff (p : Pipeline Ω α) : p.steps = [] ↔ p.empty = true := by
  cases h : p.empty <;> simp [steps, h]

theorem steps_single (t : Step Ω α) : (single t).steps = if t.isIdentity then [] else [t] := rfl

theorem steps_cons (t : Step Ω α) (r : Pipeline Ω α) : (cons t r).steps = r.iter ++ [t] := rfl

theorem steps_addStep (p : Pipeline Ω α) (s : Step Ω α)
    (h : s.isIdentity = false ∨ p.empty = false) : (p.addStep s).steps = p.steps ++ [s] := by
  unfold addStep
  cases hp : p.empty
  · rw [init_of_not_empty s hp, steps_cons, steps_of_not_empty hp]
  · have hs : s.isIdentity = false := by simpa [hp] using h
    rw [init_of_empty s hp, steps_of_empty hp, steps_single, hs]; rfl

theorem steps_injective {p q : Pipeline Ω α} (h : p.steps = q.steps) : p = q := by
  cases hp : p.empty <;> cases hq : q.empty
  · rw [steps_of_not_empty hp, steps_of_not_empty hq] at h; exact iter_injective h
  · rw [steps_of_not_empty hp, steps_of_empty hq] at h; exact absurd h (iter_ne_nil p)
  · rw [steps_of_empty hp, steps_of_not_empty hq] at h; exact absurd h.symm (iter_ne_nil q)
  · rw [(empty_iff p).1 hp, (empty_iff q).1 hq]

theorem hom_add {M : Type} (op : M → M → M) (e : M)
    (assoc : ∀ a b c, op (op a b) c = op a (op b c)) (e_op : ∀ a, op e a = a) (op_e : ∀ a, op a e = a)
    (F : Pipeline Ω α → M) (f : Step Ω α → M) (hid : f .identity = e)
    (hs : ∀ t, F (single t) = f t) (hc : ∀ t r, F (cons t r) = op (F r) (f t))
    (p q : Pipeline Ω α) : F (p + q) = op (F p) (F q) := by
  -- the constructor drops only an empty `rest`, which `F` sees as `e`
  have hinit (t : Step Ω α) (r : Pipeline Ω α) : F (init t (some r)) = op (F r) (f t) := by
    cases h : r.empty
    · rw [init_of_not_empty t h, hc]
    · rw [init_of_empty t h, (empty_iff r).1 h, hs, hs, hid, e_op]
  induction q with
  | single t =>
    rw [add_single]
    split
    next h => rw [(empty_iff (single t)).1 h, hs, hid, op_e]
    next => rw [hinit, hs]
  | cons t r ih => rw [add_cons, addStep, hinit, ih, hc, assoc]

@[simp] theorem ok_bind {β γ : Type} (a : β) (f : β → Except Err γ) : Except.ok a >>= f = f a := rfl

@[simp] theorem error_bind {β γ : Type} (e : Err) (f : β → Except Err γ) :
    Except.error e >>= f = .error e := rfl

@[simp] theorem pure_eq_ok {β : Type} (a : β) : (pure a : Except Err β) = .ok a := rfl

@[simp] theorem bind_ok {β : Type} (a : Except Err β) : a >>= Except.ok = a := by cases a <;> rfl

theorem bind_eq_ok {β γ : Type} {a : Except Err β} {f : β → Except Err γ} {c : γ} :
    a >>= f = .ok c ↔ ∃ b, a = .ok b ∧ f b = .ok c := by
  cases a with
  | error e => simp
  | ok b => simp

theorem bind_ok_fun (f : α → Except Err α) : (fun x => Except.ok x >>= f) = f := rfl

theorem fun_bind_ok (f : α → Except Err α) : (fun x => f x >>= Except.ok) = f :=
  funext fun x => bind_ok (f x)

theorem except_bind_assoc {β γ δ : Type} (a : Except Err β) (f : β → Except Err γ)
    (g : γ → Except Err δ) : (a >>= f) >>= g = a >>= fun y => f y >>= g := by
  cases a <;> rfl

def seqFn (f g : Option (α → Except Err α)) : Option (α → Except Err α) :=
  match f, g with
  | some f, some g => some (fun x => f x >>= g)
  | _, _ => none

theorem seqFn_ok_left (g : Option (α → Except Err α)) : seqFn (some Except.ok) g = g := by
  cases g <;> rfl

theorem seqFn_ok_right (f : Option (α → Except Err α)) : seqFn f (some Except.ok) = f := by
  cases f with
  | none => rfl
  | some f => exact congrArg some (fun_bind_ok f)

theorem seqFn_assoc (f g h : Option (α → Except Err α)) :
    seqFn (seqFn f g) h = seqFn f (seqFn g h) := by
  cases f <;> cases g <;> cases h <;> simp [seqFn]

theorem evaluate_single (t : Step Ω α) (o : Ω) : (single t).evaluate o = t.evaluate o := by
  simp only [evaluate]
  cases t.evaluate o <;> rfl

theorem evaluate_cons (t : Step Ω α) (r : Pipeline Ω α) (o : Ω) :
    (cons t r).evaluate o = seqFn (r.evaluate o) (t.evaluate o) := by
  simp only [evaluate, seqFn]
  cases t.evaluate o <;> cases r.evaluate o <;> rfl

theorem evaluate_of_empty {p : Pipeline Ω α} (h : p.empty = true) (o : Ω) :
    p.evaluate o = some Except.ok := by
  rw [(empty_iff p).1 h, evaluate_single]; rfl

theorem evaluate_add (p q : Pipeline Ω α) (o : Ω) :
    (p + q).evaluate o = seqFn (p.evaluate o) (q.evaluate o) :=
  hom_add seqFn (some Except.ok) seqFn_assoc seqFn_ok_left seqFn_ok_right (·.evaluate o)
    (·.evaluate o) rfl (evaluate_single · o) (evaluate_cons · · o) p q

theorem composeSteps_cons (s : Step Ω α) (l : List (Step Ω α)) (o : Ω) :
    composeSteps (s :: l) o = seqFn (s.evaluate o) (composeSteps l o) := rfl

theorem composeSteps_snoc (l : List (Step Ω α)) (t : Step Ω α) (o : Ω) :
    composeSteps (l ++ [t]) o = seqFn (composeSteps l o) (t.evaluate o) := by
  induction l with
  | nil => exact (seqFn_ok_right _).trans (seqFn_ok_left _).symm
  | cons s l ih =>
    rw [List.cons_append, composeSteps_cons, ih, ← seqFn_assoc, composeSteps_cons]

theorem wrapEval_eq_ok {r : Except Err α} {v : α} : wrapEval r = .ok v ↔ r = .ok v := by
  cases r <;> simp [wrapEval]

theorem seqUnion_pair (a b : Except Err Keys) :
    seqUnion [a, b] = (do let x ← a; let y ← b; pure (x ++ y)) := by
  simp [seqUnion]

theorem seqUnion_singleton (a : Except Err Keys) : seqUnion [a] = a := by
  simp [seqUnion]

theorem seqUnion_cons_eq_ok {r : Except Err Keys} {rs : List (Except Err Keys)} {ks : Keys} :
    seqUnion (r :: rs) = .ok ks ↔ ∃ a, r = .ok a ∧ ∃ b, seqUnion rs = .ok b ∧ a ++ b = ks := by
  simp only [seqUnion, bind_eq_ok, pure_eq_ok, Except.ok.injEq]

theorem mem_seqUnion {rs : List (Except Err Keys)} {ks : Keys} (h : seqUnion rs = .ok ks) (k : String) :
    k ∈ ks ↔ ∃ r ∈ rs, ∃ ks', r = .ok ks' ∧ k ∈ ks' := by
  induction rs generalizing ks with
  | nil => cases h; simp
  | cons r rs ih =>
    obtain ⟨a, rfl, b, hb, rfl⟩ := seqUnion_cons_eq_ok.1 h
    simp only [List.mem_append, ih hb, List.mem_cons, exists_eq_or_imp, Except.ok.injEq, exists_eq_left']

theorem seqUnion_ok_iff (rs : List (Except Err Keys)) :
    (∃ ks, seqUnion rs = .ok ks) ↔ ∀ r ∈ rs, ∃ ks', r = .ok ks' := by
  induction rs with
  | nil => exact ⟨fun _ _ h => (nomatch h), fun _ => ⟨[], rfl⟩⟩
  | cons r rs ih =>
    simp only [List.forall_mem_cons, ← ih, seqUnion_cons_eq_ok]
    exact ⟨fun ⟨_, a, ha, b, hb, _⟩ => ⟨⟨a, ha⟩, b, hb⟩, fun ⟨⟨a, ha⟩, b, hb⟩ => ⟨_, a, ha, b, hb, rfl⟩⟩

/-- `Pipeline.keys` and `Pipeline.explain` are the same fold along the list, of `Step.keys` and of
    `Step.explain`; `Identity` contributes nothing to either. -/
structure KeyFold (F : Pipeline Ω α → Except Err Keys) (f : Step Ω α → Except Err Keys) : Prop where
  identity : f .identity = .ok []
  single : ∀ t, F (single t) = f t
  cons : ∀ t r, F (cons t r) = seqUnion [f t, F r]

theorem keyFold_keys (o : Ω) : KeyFold (α := α) (·.keys o) (·.keys o) :=
  ⟨rfl, fun t => by simp [keys], fun _ _ => (seqUnion_pair _ _).symm⟩

theorem keyFold_explain (o : Ω) : KeyFold (α := α) (·.explain o) (·.explain o) :=
  ⟨rfl, fun t => by simp [explain], fun _ _ => (seqUnion_pair _ _).symm⟩

namespace KeyFold
variable {F : Pipeline Ω α → Except Err Keys} {f : Step Ω α → Except Err Keys} (h : KeyFold F f)
include h

theorem eq_seqUnion (p : Pipeline Ω α) : F p = seqUnion (p.iter.reverse.map f) := by
  induction p with
  | single t => rw [h.single]; exact (seqUnion_singleton _).symm
  | cons t r ih =>
    rw [h.cons, ih, iter, List.reverse_append]; simp [seqUnion]

theorem ok_iff (p : Pipeline Ω α) :
    (∃ ks, F p = .ok ks) ↔ ∀ s ∈ p.iter, ∃ ks', f s = .ok ks' := by
  rw [h.eq_seqUnion, seqUnion_ok_iff, List.forall_mem_map]; simp only [List.mem_reverse]

theorem mem {p : Pipeline Ω α} {ks : Keys} (hp : F p = .ok ks) (k : String) :
    k ∈ ks ↔ ∃ s ∈ p.iter, ∃ ks', f s = .ok ks' ∧ k ∈ ks' := by
  rw [mem_seqUnion (h.eq_seqUnion p ▸ hp), exists_mem_map]; simp only [List.mem_reverse]

theorem add (p q : Pipeline Ω α) : F (p + q) = seqUnion [F q, F p] :=
  hom_add (fun a b => seqUnion [b, a]) (.ok [])
    (fun a b c => by simp only [seqUnion_pair, bind_assoc, pure_bind, List.append_assoc])
    (fun a => by simp [seqUnion_pair]) (fun a => by simp [seqUnion_pair])
    F f h.identity h.single h.cons p q

theorem add_ok (p q : Pipeline Ω α) :
    (∃ ks, F (p + q) = .ok ks) ↔ (∃ kp, F p = .ok kp) ∧ (∃ kq, F q = .ok kq) := by
  rw [h.add, seqUnion_ok_iff, List.forall_mem_cons, List.forall_mem_cons, and_comm]
  simp only [List.not_mem_nil, false_imp_iff, implies_true, and_true]

theorem add_mem {p q : Pipeline Ω α} {ks kp kq : Keys} (hs : F (p + q) = .ok ks)
    (hp : F p = .ok kp) (hq : F q = .ok kq) (k : String) : k ∈ ks ↔ k ∈ kp ∨ k ∈ kq := by
  rw [h.add, hp, hq] at hs
  obtain rfl : kq ++ (kp ++ []) = ks := Except.ok.inj hs
  rw [List.append_nil, List.mem_append, or_comm]

end KeyFold

theorem keys_eq_seqUnion (p : Pipeline Ω α) (o : Ω) :
    p.keys o = seqUnion (p.iter.reverse.map (fun s => s.keys o)) :=
  (keyFold_keys o).eq_seqUnion p

theorem explain_eq_seqUnion (p : Pipeline Ω α) (o : Ω) :
    p.explain o = seqUnion (p.iter.reverse.map (fun s => s.explain o)) :=
  (keyFold_explain o).eq_seqUnion p

end Pipeline
end Labrea.PipelineLL
