/-
  RuntimeSM — executable state machine of `labrea/runtime.py` (as repaired: `Runtime._entered`
  is a per-thread stack of saved runtimes, `__exit__` pops it and removes the thread's slot when
  the thread had no runtime before, `Runtime.run` falls back to the live `_DEFAULT_HANDLERS`).

  State
    defaults : live default table            (`_DEFAULT_HANDLERS`, newest registration first)
    objs     : Id ↦ {handlers, entered}      (`Runtime` objects; `entered : Thread ↦ saved stack`,
                                               head = most recent `__enter__` of that thread)
    cur      : Thread ↦ Option Id            (`_RUNTIMES`; `none` = the thread has no slot)
    next     : Thread ↦ Nat                  allocation counter: the n-th object *created by thread t*
                                             is named `(t, n)` (a naming of Python's fresh identities)

  `Runtime.handle` builds its result with `Runtime({**self.handlers, **overrides})`, and
  `Runtime.__init__` puts a snapshot of the defaults underneath whatever it is given, so a derived
  runtime holds: overrides, else the receiver's handlers, else the defaults at derivation time.

  Every operation below is one `with lock:` body (or lock-free code that only reads immutable
  data / allocates), hence atomic.  What is abstracted away:
    * handler bodies (handlers are tags `H`; a served request returns the tag),
    * the informational field `Runtime.previous` (never read by the library),
    * the throw-away `Runtime()` that `setdefault(…, Runtime())` / `.get(parent, Runtime())`
      construct eagerly when the slot exists (unobservable),
    * `Runtime.__init__` setting `_entered = {}`: `alloc` keeps the (empty) entered stacks of the
      fresh name; on well-formed states (fresh names have empty stacks, `WF`) this is the same.
  No Mathlib.
-/
namespace Labrea.RuntimeSM

abbrev Ty := Nat
abbrev H := Nat
abbrev Thread := Nat
abbrev Id := Nat × Nat
abbrev Var := Nat
abbrev Table := List (Ty × H)

/-- function update -/
def upd {α : Type} {β : Type} [DecidableEq α] (f : α → β) (a : α) (b : β) : α → β :=
  fun x => if x = a then b else f x

@[simp] theorem upd_same {α β : Type} [DecidableEq α] (f : α → β) (a : α) (b : β) :
    upd f a b a = b := by simp [upd]

@[simp] theorem upd_ne {α β : Type} [DecidableEq α] (f : α → β) {a x : α} (b : β) (h : x ≠ a) :
    upd f a b x = f x := by simp [upd, h]

theorem mem_upd {α β : Type} [DecidableEq α] {f : α → List β} {a a' : α} {l : List β} {x : β}
    (h : x ∈ upd f a l a') : x ∈ l ∨ x ∈ f a' := by
  unfold upd at h; split at h
  · exact Or.inl h
  · exact Or.inr h

theorem upd_apply {α β : Type} [DecidableEq α] (f : α → β) (a x : α) (b : β) :
    upd f a b x = if x = a then b else f x := rfl

structure Obj where
  handlers : Table
  entered : Thread → List (Option Id)

structure State where
  defaults : Table
  objs : Id → Obj
  next : Thread → Nat
  cur : Thread → Option Id

/-- result of one atomic operation -/
inductive Res
  | unit
  | id (r : Id)
  | served (h : H)
  | typeError
  | notEntered          -- `__exit__` of an object the thread has not entered (KeyError); never in block trees
  deriving DecidableEq, Repr

/-- the atomic operations, objects given by identity -/
inductive Op
  | current
  | new (hs : Table)
  | derive (r : Id) (hs : Table)
  | handleCur (hs : Table)
  | enter (r : Id)
  | exit (r : Id)
  | registerDefault (ty : Ty) (h : H)
  | run (ty : Ty)
  | inherit (p : Thread)
  deriving DecidableEq, Repr

/-- `Runtime(handlers)` executed by thread `t`: a fresh object `(t, next t)` -/
def alloc (s : State) (t : Thread) (hs : Table) : State × Id :=
  ({ s with objs := upd s.objs (t, s.next t) { handlers := hs, entered := (s.objs (t, s.next t)).entered },
            next := upd s.next t (s.next t + 1) }, (t, s.next t))

/-- `current_runtime()`: `_RUNTIMES.setdefault(thread, Runtime())` -/
def current (s : State) (t : Thread) : State × Id :=
  match s.cur t with
  | some r => (s, r)
  | none => ({ (alloc s t s.defaults).1 with cur := upd s.cur t (some (t, s.next t)) }, (t, s.next t))

/-- `Runtime.run`: own handlers, else the live defaults, else TypeError -/
def serve (defaults : Table) (handlers : Table) (ty : Ty) : Res :=
  match handlers.lookup ty with
  | some h => .served h
  | none =>
    match defaults.lookup ty with
    | some h => .served h
    | none => .typeError

def step (s : State) (t : Thread) : Op → State × Res
  | .current => let c := current s t; (c.1, .id c.2)
  | .new hs => let a := alloc s t (hs ++ s.defaults); (a.1, .id a.2)
  | .derive r hs => let a := alloc s t (hs ++ (s.objs r).handlers ++ s.defaults); (a.1, .id a.2)
  | .handleCur hs =>
      let c := current s t
      let a := alloc c.1 t (hs ++ (c.1.objs c.2).handlers ++ c.1.defaults)
      (a.1, .id a.2)
  | .enter r =>
      ({ s with objs := upd s.objs r { handlers := (s.objs r).handlers,
                                        entered := upd (s.objs r).entered t (s.cur t :: (s.objs r).entered t) },
                cur := upd s.cur t (some r) }, .unit)
  | .exit r =>
      match (s.objs r).entered t with
      | [] => (s, .notEntered)
      | prev :: rest =>
        ({ s with objs := upd s.objs r { handlers := (s.objs r).handlers,
                                          entered := upd (s.objs r).entered t rest },
                  cur := upd s.cur t prev }, .unit)
  | .registerDefault ty h => ({ s with defaults := (ty, h) :: s.defaults }, .unit)
  | .run ty =>
      let c := current s t
      (c.1, serve c.1.defaults (c.1.objs c.2).handlers ty)
  | .inherit p =>
      match s.cur p with
      | some r => ({ s with cur := upd s.cur t (some r) }, .unit)
      | none => ({ (alloc s t s.defaults).1 with cur := upd s.cur t (some (t, s.next t)) }, .unit)

/-! ## Block trees (histories of one thread) -/

/-- non-scoping operations of a history; runtime objects are named by variables -/
inductive BOp
  | current (x : Var)                      -- x = current_runtime()
  | new (x : Var) (hs : Table)             -- x = Runtime(hs)
  | derive (x y : Var) (hs : Table)        -- x = y.handle(hs)
  | handleCur (x : Var) (hs : Table)       -- x = handle(hs)
  | registerDefault (ty : Ty) (h : H)
  | run (ty : Ty)
  | inherit (p : Thread)
  | probe                                  -- observe `_RUNTIMES.get(thread)` (no allocation)
  deriving DecidableEq, Repr

/-- `Block := op* | with r { Block } [raising]`, with `raise`/`try` to place the exception -/
inductive Block
  | done
  | op (o : BOp) (k : Block)
  | raise                                   -- raise an exception here (the continuation is skipped)
  | with_ (x : Var) (body : Block) (k : Block)
  | try_ (body : Block) (k : Block)         -- try: body / except: pass ; k
  deriving Repr

inductive Obs
  | bound (x : Var) (r : Id)
  | served (h : H)
  | typeError
  | cur (o : Option Id)
  deriving DecidableEq, Repr

abbrev Env := Var → Id

structure Out (σ : Type) where
  env : Env
  st : σ
  obs : List Obs
  raised : Bool

/-- the atomic operation a block op performs (probe performs none) -/
def BOp.toOp (env : Env) : BOp → Option Op
  | .current _ => some .current
  | .new _ hs => some (.new hs)
  | .derive _ y hs => some (.derive (env y) hs)
  | .handleCur _ hs => some (.handleCur hs)
  | .registerDefault ty h => some (.registerDefault ty h)
  | .run ty => some (.run ty)
  | .inherit p => some (.inherit p)
  | .probe => none

def BOp.target : BOp → Option Var
  | .current x => some x
  | .new x _ => some x
  | .derive x _ _ => some x
  | .handleCur x _ => some x
  | _ => none

def bindEnv (env : Env) (o : BOp) (r : Res) : Env :=
  match o.target, r with
  | some x, .id i => upd env x i
  | _, _ => env

def observe (o : BOp) (r : Res) : List Obs :=
  match o.target, r with
  | some x, .id i => [.bound x i]
  | _, .served h => [.served h]
  | _, .typeError => [.typeError]
  | _, _ => []

/-- a machine: atomic step + reading the current-runtime slot -/
structure Machine (σ : Type) where
  step : σ → Thread → Op → σ × Res
  cur : σ → Thread → Option Id

/-- execution of a block tree by thread `t`, generic in the machine -/
def execG {σ : Type} (m : Machine σ) (t : Thread) : Block → Env → σ → Out σ
  | .done, env, s => ⟨env, s, [], false⟩
  | .op o k, env, s =>
      match o.toOp env with
      | none =>
        let out := execG m t k env s
        { out with obs := .cur (m.cur s t) :: out.obs }
      | some a =>
        let r := m.step s t a
        let out := execG m t k (bindEnv env o r.2) r.1
        { out with obs := observe o r.2 ++ out.obs }
  | .raise, env, s => ⟨env, s, [], true⟩
  | .with_ x body k, env, s =>
      let b := execG m t body env (m.step s t (.enter (env x))).1
      let s2 := (m.step b.st t (.exit (env x))).1
      match b.raised with
      | true => ⟨b.env, s2, b.obs, true⟩
      | false =>
        let out := execG m t k b.env s2
        { out with obs := b.obs ++ out.obs }
  | .try_ body k, env, s =>
      let b := execG m t body env s
      let out := execG m t k b.env b.st
      { out with obs := b.obs ++ out.obs }

def machine : Machine State := ⟨step, fun s t => s.cur t⟩

@[simp] theorem machine_step : machine.step = step := rfl
@[simp] theorem machine_cur (s : State) (t : Thread) : machine.cur s t = s.cur t := rfl

def exec (t : Thread) (b : Block) (env : Env) (s : State) : Out State := execG machine t b env s

/-- the state right after leaving `with env x { body }` (normally or by exception) -/
def execWith (t : Thread) (x : Var) (body : Block) (env : Env) (s : State) : State :=
  (step (exec t body env (step s t (.enter (env x))).1).st t (.exit (env x))).1

/-! ## The abstract specification: one stack of frames per thread -/

structure AState where
  defaults : Table
  handlers : Id → Table
  next : Thread → Nat
  cur : Thread → Option Id
  /-- innermost first; a frame = (entered runtime, runtime that was current before) -/
  frames : Thread → List (Id × Option Id)

def aalloc (a : AState) (t : Thread) (hs : Table) : AState × Id :=
  ({ a with handlers := upd a.handlers (t, a.next t) hs, next := upd a.next t (a.next t + 1) },
   (t, a.next t))

def acurrent (a : AState) (t : Thread) : AState × Id :=
  match a.cur t with
  | some r => (a, r)
  | none => ({ (aalloc a t a.defaults).1 with cur := upd a.cur t (some (t, a.next t)) }, (t, a.next t))

def astep (a : AState) (t : Thread) : Op → AState × Res
  | .current => let c := acurrent a t; (c.1, .id c.2)
  | .new hs => let x := aalloc a t (hs ++ a.defaults); (x.1, .id x.2)
  | .derive r hs => let x := aalloc a t (hs ++ a.handlers r ++ a.defaults); (x.1, .id x.2)
  | .handleCur hs =>
      let c := acurrent a t
      let x := aalloc c.1 t (hs ++ c.1.handlers c.2 ++ c.1.defaults)
      (x.1, .id x.2)
  | .enter r =>
      ({ a with frames := upd a.frames t ((r, a.cur t) :: a.frames t), cur := upd a.cur t (some r) }, .unit)
  | .exit _ =>
      match a.frames t with
      | [] => (a, .notEntered)
      | f :: rest => ({ a with frames := upd a.frames t rest, cur := upd a.cur t f.2 }, .unit)
  | .registerDefault ty h => ({ a with defaults := (ty, h) :: a.defaults }, .unit)
  | .run ty =>
      let c := acurrent a t
      (c.1, serve c.1.defaults (c.1.handlers c.2) ty)
  | .inherit p =>
      match a.cur p with
      | some r => ({ a with cur := upd a.cur t (some r) }, .unit)
      | none => ({ (aalloc a t a.defaults).1 with cur := upd a.cur t (some (t, a.next t)) }, .unit)

def amachine : Machine AState := ⟨astep, fun a t => a.cur t⟩

@[simp] theorem amachine_step : amachine.step = astep := rfl
@[simp] theorem amachine_cur (a : AState) (t : Thread) : amachine.cur a t = a.cur t := rfl

def aexec (t : Thread) (b : Block) (env : Env) (a : AState) : Out AState := execG amachine t b env a

/-- the abstract state of a concrete state taken as the starting point (no frames yet) -/
def absInit (s : State) : AState :=
  ⟨s.defaults, fun r => (s.objs r).handlers, s.next, s.cur, fun _ => []⟩

/-- saved runtimes of the frames owned by object `r` -/
def owned (r : Id) (fs : List (Id × Option Id)) : List (Option Id) :=
  (fs.filter (fun f => f.1 == r)).map (·.2)

/-- refinement relation, relative to the concrete state `c0` in which the history started -/
structure Refines (c0 c : State) (a : AState) : Prop where
  defaults : a.defaults = c.defaults
  handlers : ∀ r, a.handlers r = (c.objs r).handlers
  next : a.next = c.next
  cur : a.cur = c.cur
  entered : ∀ r t, (c.objs r).entered t = owned r (a.frames t) ++ (c0.objs r).entered t

/-! ## The OLD behaviour (single `previous` field on the object), kept to document the repair -/

inductive Slot
  | unset
  | none          -- the value `None` stored in the thread's slot
  | some (r : Id)
  deriving DecidableEq, Repr

structure OldState where
  cur : Thread → Slot
  previous : Id → Option Id

/-- old `__enter__`: `self.previous = _RUNTIMES.get(thread); _RUNTIMES[thread] = self` -/
def enterOld (s : OldState) (t : Thread) (r : Id) : OldState :=
  { cur := upd s.cur t (.some r),
    previous := upd s.previous r (match s.cur t with | .some p => Option.some p | _ => Option.none) }

/-- old `__exit__`: `_RUNTIMES[thread] = self.previous; self.previous = None` -/
def exitOld (s : OldState) (t : Thread) (r : Id) : OldState :=
  { cur := upd s.cur t (match s.previous r with | Option.some p => .some p | Option.none => .none),
    previous := upd s.previous r Option.none }

section lemmas

theorem upd_upd_self {α β : Type} [DecidableEq α] (f : α → β) (a : α) (b : β) :
    upd (upd f a b) a (f a) = f := by
  funext x; simp only [upd_apply]; split <;> simp [*]

@[simp] theorem upd_objs_handlers (objs : Id → Obj) (r r' : Id) (e : Thread → List (Option Id)) :
    (upd objs r ⟨(objs r).handlers, e⟩ r').handlers = (objs r').handlers := by
  simp only [upd_apply]; split <;> simp [*]

theorem upd_objs_entered (objs : Id → Obj) (r r' : Id) (hs : Table) (t t' : Thread) (l : List (Option Id)) :
    (upd objs r ⟨hs, upd (objs r).entered t l⟩ r').entered t' =
      if r' = r ∧ t' = t then l else (objs r').entered t' := by
  simp only [upd_apply]
  split
  · subst r'; simp only [upd_apply, true_and]
  · simp [*]

@[simp] theorem alloc_cur (s : State) (t : Thread) (hs : Table) : (alloc s t hs).1.cur = s.cur := rfl
@[simp] theorem alloc_defaults (s : State) (t : Thread) (hs : Table) :
    (alloc s t hs).1.defaults = s.defaults := rfl
@[simp] theorem alloc_id (s : State) (t : Thread) (hs : Table) : (alloc s t hs).2 = (t, s.next t) := rfl
@[simp] theorem alloc_next (s : State) (t : Thread) (hs : Table) :
    (alloc s t hs).1.next = upd s.next t (s.next t + 1) := rfl

theorem alloc_objs (s : State) (t : Thread) (hs : Table) :
    (alloc s t hs).1.objs = upd s.objs (t, s.next t) ⟨hs, (s.objs (t, s.next t)).entered⟩ := rfl

@[simp] theorem alloc_entered (s : State) (t : Thread) (hs : Table) (r : Id) :
    ((alloc s t hs).1.objs r).entered = (s.objs r).entered := by
  rw [alloc_objs, upd_apply]; split
  · subst r; rfl
  · rfl

theorem alloc_handlers (s : State) (t : Thread) (hs : Table) (r : Id) :
    ((alloc s t hs).1.objs r).handlers = if r = (t, s.next t) then hs else (s.objs r).handlers := by
  rw [alloc_objs, upd_apply]; split <;> rfl

theorem alloc_handlers_congr {a b : State} {t : Thread} {ha hb : Table} {r : Id} (hn : a.next t = b.next t)
    (hs : ha = hb) (h : (a.objs r).handlers = (b.objs r).handlers) :
    ((alloc a t ha).1.objs r).handlers = ((alloc b t hb).1.objs r).handlers := by
  rw [alloc_handlers, alloc_handlers, hn, hs, h]

@[simp] theorem current_entered (s : State) (t : Thread) (r : Id) :
    ((current s t).1.objs r).entered = (s.objs r).entered := by
  unfold current; split <;> simp

@[simp] theorem current_defaults (s : State) (t : Thread) : (current s t).1.defaults = s.defaults := by
  unfold current; split <;> simp

theorem current_cur (s : State) (t : Thread) : (current s t).1.cur t = some (current s t).2 := by
  unfold current; split
  · assumption
  · simp

theorem current_cur_other (s : State) (t t' : Thread) (h : t' ≠ t) :
    (current s t).1.cur t' = s.cur t' := by
  unfold current; split <;> simp [h]

theorem current_of_some (s : State) (t : Thread) (r : Id) (h : s.cur t = some r) :
    current s t = (s, r) := by
  unfold current; rw [h]

def Op.scoping : Op → Bool
  | .enter _ | .exit _ => true
  | _ => false

theorem toOp_scoping {env : Env} {o : BOp} {a : Op} (h : o.toOp env = some a) : a.scoping = false := by
  cases o <;> cases h <;> rfl

/-- Every step of `t` is a sequence of at most three writes, so a preorder that holds across each kind
    of write holds across the step.  `scope` is asked for `enter` and `exit` only: a relation that does
    not survive the write of a saved stack (`SameEntered`) still holds across the other operations. -/
theorem step_writes {P : State → State → Prop} (t : Thread) (refl : ∀ s, P s s)
    (trans : ∀ {a b c}, P a b → P b c → P a c)
    (alloc : ∀ s hs, P s (alloc s t hs).1)
    (cur : ∀ s r, P s { s with cur := upd s.cur t (some r) })
    (default : ∀ s ty h, P s { s with defaults := (ty, h) :: s.defaults })
    (s : State) (o : Op)
    (scope : o.scoping = true → ∀ r l x, P s { s with
      objs := upd s.objs r ⟨(s.objs r).handlers, upd (s.objs r).entered t l⟩, cur := upd s.cur t x }) :
    P s (step s t o).1 := by
  have current : ∀ s, P s (current s t).1 := fun s => by
    unfold RuntimeSM.current; split
    · exact refl s
    · exact trans (alloc s _) (cur _ _)
  cases o with
  | enter r => exact scope rfl ..
  | exit r =>
    simp only [step]; split
    · exact refl s
    · exact scope rfl ..
  | current | run ty => exact current s
  | new hs | derive r hs => exact alloc s _
  | handleCur hs => exact trans (current s) (alloc _ _)
  | registerDefault ty h => exact default s ty h
  | inherit p =>
    simp only [step]; split
    · exact cur s _
    · exact trans (alloc s _) (cur _ _)

theorem step_defaults (s : State) (t : Thread) (o : Op) :
    (step s t o).1.defaults = match o with
      | .registerDefault ty h => (ty, h) :: s.defaults
      | _ => s.defaults := by
  cases o with
  | exit r | inherit p => simp only [step]; split <;> rfl
  | _ => simp [step]

theorem execG_rel {σ : Type} (m : Machine σ) (t : Thread) (R : σ → σ → Prop)
    (refl : ∀ s, R s s) (trans : ∀ {s₁ s₂ s₃}, R s₁ s₂ → R s₂ s₃ → R s₁ s₃)
    (hop : ∀ s {a : Op}, a.scoping = false → R s (m.step s t a).1)
    (hwith : ∀ x body env s,
      R (m.step s t (.enter (env x))).1 (execG m t body env (m.step s t (.enter (env x))).1).st →
      R s (m.step (execG m t body env (m.step s t (.enter (env x))).1).st t (.exit (env x))).1)
    (b : Block) : ∀ env s, R s (execG m t b env s).st := by
  induction b with
  | done => exact fun _ s => refl s
  | raise => exact fun _ s => refl s
  | op o k ih =>
    intro env s
    simp only [execG]
    split
    · exact ih env s
    · exact trans (hop s (toOp_scoping ‹_›)) (ih _ _)
  | with_ x body k ihb ihk =>
    intro env s
    have hw := hwith x body env s (ihb env _)
    simp only [execG]
    split
    · exact hw
    · exact trans hw (ihk _ _)
  | try_ body k ihb ihk => exact fun env s => trans (ihb env s) (ihk _ _)

def SameEntered (s s' : State) : Prop := ∀ r t, (s'.objs r).entered t = (s.objs r).entered t

theorem step_entered (s : State) (t : Thread) {o : Op} (h : o.scoping = false) :
    SameEntered s (step s t o).1 :=
  step_writes t (fun _ _ _ => rfl) (fun h₁ h₂ r t' => (h₂ r t').trans (h₁ r t'))
    (fun s hs r _ => congrFun (alloc_entered s t hs r) _) (fun _ _ _ _ => rfl) (fun _ _ _ _ _ => rfl) s o
    fun h' => nomatch h.symm.trans h'

theorem enter_entered (s : State) (t : Thread) (r r' : Id) (t' : Thread) :
    ((step s t (.enter r)).1.objs r').entered t' =
      if r' = r ∧ t' = t then s.cur t :: (s.objs r).entered t else (s.objs r').entered t' :=
  upd_objs_entered ..

theorem exit_entered (s : State) (t : Thread) (r r' : Id) (t' : Thread) :
    ((step s t (.exit r)).1.objs r').entered t' =
      if r' = r ∧ t' = t then ((s.objs r).entered t).tail else (s.objs r').entered t' := by
  simp only [step]
  split
  · split
    · rename_i he e; rw [e.1, e.2, he]; rfl
    · rfl
  · rename_i he; rw [upd_objs_entered, he]; rfl

theorem entered_top {s s' : State} {t : Thread} {r : Id} (h : SameEntered (step s t (.enter r)).1 s') :
    (s'.objs r).entered t = s.cur t :: (s.objs r).entered t := by
  rw [h, enter_entered, if_pos ⟨rfl, rfl⟩]

theorem exit_enter {s s' : State} {t : Thread} {r : Id} (h : SameEntered (step s t (.enter r)).1 s') :
    (step s' t (.exit r)).1.cur t = s.cur t ∧ SameEntered s (step s' t (.exit r)).1 := by
  refine ⟨?_, fun r' t' => ?_⟩
  · simp only [step, entered_top h, upd_same]
  · rw [exit_entered, entered_top h]
    split
    · rename_i e; rw [e.1, e.2]; rfl
    · rw [h, enter_entered, if_neg ‹_›]

theorem exec_entered (t : Thread) (b : Block) (env : Env) (s : State) : SameEntered s (exec t b env s).st :=
  execG_rel machine t SameEntered (fun _ _ _ => rfl) (fun h₁ h₂ r t' => (h₂ r t').trans (h₁ r t'))
    (fun s _ h => step_entered s t h) (fun _ _ _ _ h => (exit_enter h).2) b env s

def absWith (c : State) (fr : Thread → List (Id × Option Id)) : AState :=
  ⟨c.defaults, fun r => (c.objs r).handlers, c.next, c.cur, fr⟩

theorem aalloc_absWith (c : State) (fr) (t : Thread) (hs : Table) :
    aalloc (absWith c fr) t hs = (absWith (alloc c t hs).1 fr, (alloc c t hs).2) := by
  simp only [aalloc, alloc, absWith, Prod.mk.injEq, AState.mk.injEq, and_true, true_and]
  funext r
  simp only [upd_apply]; split <;> rfl

theorem acurrent_absWith (c : State) (fr) (t : Thread) :
    acurrent (absWith c fr) t = (absWith (current c t).1 fr, (current c t).2) := by
  unfold acurrent current
  show (match c.cur t with | some r => _ | none => _) = _
  cases c.cur t with
  | some r => rfl
  | none => simp only [aalloc_absWith]; rfl

theorem astep_absWith {x : Op} (h : x.scoping = false) (c : State) (fr) (t : Thread) :
    astep (absWith c fr) t x = (absWith (step c t x).1 fr, (step c t x).2) := by
  cases x with
  | enter r | exit r => cases h
  | current | run ty => simp only [astep, acurrent_absWith]; rfl
  | new hs | derive r hs => simp only [astep, aalloc_absWith]; rfl
  | handleCur hs => simp only [astep, acurrent_absWith, aalloc_absWith]; rfl
  | registerDefault ty h' => rfl
  | inherit p =>
    simp only [astep, step, aalloc_absWith]
    show (match c.cur p with | some r => _ | none => _) = _
    cases c.cur p <;> rfl

theorem astep_enter_absWith (c : State) (fr) (t : Thread) (r : Id) :
    (astep (absWith c fr) t (.enter r)).1 =
      absWith (step c t (.enter r)).1 (upd fr t ((r, c.cur t) :: fr t)) := by
  simp only [astep, step, absWith, AState.mk.injEq, true_and, and_true]
  exact funext fun _ => (upd_objs_handlers ..).symm

theorem astep_exit_absWith {s s' : State} {t : Thread} {r : Id} (fr)
    (h : SameEntered (step s t (.enter r)).1 s') :
    (astep (absWith s' (upd fr t ((r, s.cur t) :: fr t))) t (.exit r)).1 =
      absWith (step s' t (.exit r)).1 fr := by
  simp only [astep, step, absWith, entered_top h, upd_same, upd_upd_self, AState.mk.injEq, true_and, and_true]
  exact funext fun _ => (upd_objs_handlers ..).symm

theorem execG_absWith (t : Thread) (b : Block) : ∀ env c fr,
    execG amachine t b env (absWith c fr) =
      let out := execG machine t b env c
      ⟨out.env, absWith out.st fr, out.obs, out.raised⟩ := by
  induction b with
  | done => intros; rfl
  | raise => intros; rfl
  | op o k ih =>
    intro env c fr
    simp only [execG]
    cases ho : o.toOp env with
    | none => simp only [ih]; rfl
    | some x => simp only [amachine_step, machine_step, astep_absWith (toOp_scoping ho), ih]
  | with_ x body k ihb ihk =>
    intro env c fr
    simp only [execG, amachine_step, machine_step, astep_enter_absWith, ihb]
    -- the saved runtimes play no part: by balance, `exit` pops on both sides what the matching `enter` pushed
    rw [astep_exit_absWith (s' := (execG machine t body env _).st) fr (exec_entered t body env _)]
    cases (execG machine t body env (step c t (.enter (env x))).1).raised
    · simp only [ihk]
    · rfl
  | try_ body k ihb ihk =>
    intro env c fr
    simp only [execG, ihb, ihk]

theorem Refines.eq_absWith {c0 c : State} {a : AState} (h : Refines c0 c a) : a = absWith c a.frames := by
  cases a
  simp only [absWith, AState.mk.injEq, and_true]
  exact ⟨h.defaults, funext h.handlers, h.next, h.cur⟩

theorem exec_refines (t : Thread) (b : Block) : ∀ (env : Env) (c0 c : State) (a : AState),
    Refines c0 c a →
      Refines c0 (exec t b env c).st (aexec t b env a).st ∧
      (aexec t b env a).obs = (exec t b env c).obs ∧
      (aexec t b env a).env = (exec t b env c).env ∧
      (aexec t b env a).raised = (exec t b env c).raised := by
  intro env c0 c a h
  obtain ⟨fr, rfl⟩ : ∃ fr, a = absWith c fr := ⟨_, h.eq_absWith⟩
  simp only [aexec, execG_absWith]
  exact ⟨⟨rfl, fun _ => rfl, rfl, rfl, fun r t' => (exec_entered t b env c r t').trans (h.entered r t')⟩, rfl, rfl, rfl⟩

theorem refines_init (s : State) : Refines s s (absInit s) :=
  ⟨rfl, fun _ => rfl, rfl, rfl, fun _ _ => by simp [absInit, owned]⟩

/-- `r` names an object that has been created -/
def Allocated (s : State) (r : Id) : Prop := r.2 < s.next r.1

def Grows (t : Thread) (s s' : State) : Prop :=
  (∀ t', s.next t' ≤ s'.next t') ∧
  ∀ r, (r.1 = t → r.2 < s.next t) → (s'.objs r).handlers = (s.objs r).handlers

theorem Grows.refl (t : Thread) (s : State) : Grows t s s := ⟨fun _ => Nat.le_refl _, fun _ _ => rfl⟩

theorem Grows.trans {t : Thread} {s₁ s₂ s₃ : State} (h : Grows t s₁ s₂) (h' : Grows t s₂ s₃) :
    Grows t s₁ s₃ :=
  ⟨fun t' => Nat.le_trans (h.1 t') (h'.1 t'),
   fun r hr => (h'.2 r fun e => Nat.lt_of_lt_of_le (hr e) (h.1 t)).trans (h.2 r hr)⟩

theorem alloc_grows (s : State) (t : Thread) (hs : Table) : Grows t s (alloc s t hs).1 := by
  refine ⟨fun t' => ?_, fun r hr => ?_⟩
  · simp only [alloc_next, upd_apply]; split
    · subst t'; exact Nat.le_succ _
    · exact Nat.le_refl _
  · rw [alloc_handlers, if_neg]
    rintro rfl; exact Nat.lt_irrefl _ (hr rfl)

theorem step_grows (s : State) (t : Thread) (o : Op) : Grows t s (step s t o).1 :=
  step_writes t (.refl t) .trans (fun s _ => alloc_grows s t _) (fun s _ => .refl t s) (fun s _ _ => .refl t s) s o
    fun _ _ _ _ => ⟨fun _ => Nat.le_refl _, fun _ _ => upd_objs_handlers ..⟩

theorem exec_grows (t : Thread) (b : Block) (env : Env) (s : State) : Grows t s (exec t b env s).st :=
  execG_rel machine t (Grows t) (.refl t) .trans (fun s _ _ => step_grows s t _)
    (fun _ _ _ s h => ((step_grows s t _).trans h).trans (step_grows _ t _)) b env s

theorem Grows.allocated {t : Thread} {s s' : State} (h : Grows t s s') {r : Id} (hr : Allocated s r) :
    (s'.objs r).handlers = (s.objs r).handlers ∧ Allocated s' r :=
  ⟨h.2 r fun e => e ▸ hr, Nat.lt_of_lt_of_le hr (h.1 r.1)⟩

theorem step_handlers (s : State) (t : Thread) (o : Op) (r : Id) (h : Allocated s r) :
    ((step s t o).1.objs r).handlers = (s.objs r).handlers := ((step_grows s t o).allocated h).1

theorem step_allocated (s : State) (t : Thread) (o : Op) (r : Id) (h : Allocated s r) :
    Allocated (step s t o).1 r := ((step_grows s t o).allocated h).2

theorem exec_handlers (t : Thread) (b : Block) : ∀ (env : Env) (s : State) (r : Id), Allocated s r →
    ((exec t b env s).st.objs r).handlers = (s.objs r).handlers ∧ Allocated (exec t b env s).st r :=
  fun env s _ h => (exec_grows t b env s).allocated h

theorem alloc_objs_of_allocated (s : State) (t : Thread) (hs : Table) (r : Id) (h : Allocated s r) :
    (alloc s t hs).1.objs r = s.objs r := by
  rw [alloc_objs, upd_ne]
  rintro rfl; exact Nat.lt_irrefl _ h

theorem execWith_cur (t : Thread) (x : Var) (body : Block) (env : Env) (s : State) :
    (execWith t x body env s).cur t = s.cur t :=
  (exit_enter (exec_entered t body env _)).1

theorem execWith_entered (t : Thread) (x : Var) (body : Block) (env : Env) (s : State) (r : Id) (t' : Thread) :
    ((execWith t x body env s).objs r).entered t' = (s.objs r).entered t' :=
  (exit_enter (exec_entered t body env _)).2 r t'

theorem exec_with_done (t : Thread) (x : Var) (body : Block) (env : Env) (s : State) :
    (exec t (.with_ x body .done) env s).st = execWith t x body env s := by
  simp only [exec, execG, machine_step, execWith]
  split <;> rfl

theorem step_cur_isSome (s : State) (t : Thread) {o : Op} (ho : o.scoping = false)
    (h : (s.cur t).isSome) : ((step s t o).1.cur t).isSome :=
  step_writes (P := fun s s' => (s.cur t).isSome → (s'.cur t).isSome) t (fun _ => id)
    (fun h₁ h₂ => h₂ ∘ h₁) (fun _ _ => id) (fun s r _ => by simp only [upd_same]; rfl) (fun _ _ _ => id) s o
    (fun h' => nomatch ho.symm.trans h') h

theorem exec_cur_isSome (t : Thread) (b : Block) : ∀ (env : Env) (s : State),
    (s.cur t).isSome → ((exec t b env s).st.cur t).isSome :=
  execG_rel machine t (fun s s' => (s.cur t).isSome → (s'.cur t).isSome) (fun _ => id)
    (fun h₁ h₂ => h₂ ∘ h₁) (fun s _ => step_cur_isSome s t)
    (fun x body env s _ h => (execWith_cur t x body env s).symm ▸ h) b

/-- well-formed states: a name that has not been allocated has empty saved stacks -/
def WF (s : State) : Prop := ∀ r, ¬ Allocated s r → ∀ t, (s.objs r).entered t = []

/-- on a well-formed state a freshly created object has empty saved stacks, as `__init__` makes them -/
theorem alloc_fresh_entered (s : State) (t : Thread) (hs : Table) (h : WF s) :
    ((alloc s t hs).1.objs (t, s.next t)).entered = fun _ => [] := by
  funext t'
  rw [alloc_entered]
  exact h (t, s.next t) (by simp [Allocated]) t'

/-- well-formedness is preserved by every step that enters only existing objects (a program can
    only hold references to objects that were created) -/
theorem step_wf (s : State) (t : Thread) (o : Op) (h : WF s) (hen : ∀ r, o = .enter r → Allocated s r) :
    WF (step s t o).1 := by
  intro r' hr' t'
  -- a name not yet allocated after the step was not allocated before it: its stacks were empty
  have h0 := h r' (mt (step_allocated s t o r') hr')
  cases o with
  | enter r =>
    rw [enter_entered, if_neg fun e : r' = r ∧ t' = t => hr' (e.1 ▸ hen r rfl)]
    exact h0 t'
  | exit r =>
    rw [exit_entered]
    split
    · rename_i e; rw [← e.1, h0]; rfl
    · exact h0 t'
  | _ => rw [step_entered s t rfl]; exact h0 t'

end lemmas

end Labrea.RuntimeSM
