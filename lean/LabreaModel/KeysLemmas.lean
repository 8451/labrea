/-
  A logic for *results*: `Tri Q m` = "`m` only appends to the event log, and every value a run of `m`
  returns satisfies `Q` — unless the run consulted the whole dictionary (`AllOptions`, event `readAll`)".
  Used for the whole-interpreter theorem behind C03's "present-only": every key `keys(o)` reports is
  present in `o` (`keys_present_only` in `LabreaProps/C03.lean`).
-/
import LabreaModel.EvalLemmas
import LabreaModel.MixLemmas
import LabreaModel.MonadLemmas
namespace Labrea

/-- no `AllOptions` node has looked at the whole dictionary so far -/
def Quiet (s : St) : Prop := ∀ e ∈ s.events, e.isReadAll = false

theorem quiet_of_ext {s s' : St} (h : Ext s s') (q : Quiet s') : Quiet s := by
  obtain ⟨l, hl⟩ := h
  intro e he
  exact q e (by rw [hl]; exact List.mem_append_right _ he)

abbrev ESpec {α} (m : M α) : Prop := Spec Ext (fun _ => True) m

structure Tri {α} (Q : α → Prop) (m : M α) : Prop where
  ext : ESpec m
  post : ∀ s a s', m s = some (.ok a, s') → Quiet s' → Q a

theorem tri_of_spec {α} {m : M α} (h : ESpec m) : Tri (fun _ => True) m := ⟨h, fun _ _ _ _ _ => trivial⟩

theorem tri_weaken {α} {Q Q' : α → Prop} {m : M α} (h : ∀ a, Q a → Q' a) (t : Tri Q m) : Tri Q' m :=
  ⟨t.ext, fun s a s' hr q => h a (t.post s a s' hr q)⟩

theorem tri_pure {α} {Q : α → Prop} {a : α} (h : Q a) : Tri Q (pure a : M α) :=
  ⟨pres_pure ext_rel.toStRel truePred a, fun s b s' hr _ => by
    simp only [pure_run, Option.some.injEq, Prod.mk.injEq, Except.ok.injEq] at hr; exact hr.1 ▸ h⟩

theorem tri_raise {α} {Q : α → Prop} (e : Err) : Tri Q (raise e : M α) :=
  ⟨pres_raise ext_rel.toStRel truePred trivial, fun s a s' hr _ => by simp at hr⟩

theorem tri_outOfFuel {α} {Q : α → Prop} : Tri Q (outOfFuel : M α) :=
  ⟨pres_outOfFuel ext_rel.toStRel truePred, fun s a s' hr _ => by simp [outOfFuel] at hr⟩

theorem tri_bind {α β} {Q1 : α → Prop} {Q : β → Prop} {m : M α} {f : α → M β}
    (hm : Tri Q1 m) (hf : ∀ a, Tri (fun b => Q1 a → Q b) (f a)) : Tri Q (m >>= f) := by
  refine ⟨pres_bind ext_rel.toStRel truePred hm.ext (fun a => (hf a).ext), fun s b s' hr q => ?_⟩
  simp only [bind_run] at hr
  cases hm1 : m s with
  | none => simp [hm1] at hr
  | some p =>
    obtain ⟨r, s1⟩ := p
    cases r with
    | error e => simp [hm1] at hr
    | ok a =>
      simp only [hm1] at hr
      have hext := ((hf a).ext.run s1 _ s' hr).1
      exact (hf a).post s1 b s' hr q (hm.post s a s1 hm1 (quiet_of_ext hext q))

theorem tri_handle {α} {Q : α → Prop} {m : M α} {k : Err → M α} (hm : Tri Q m) (hk : ∀ e, Tri Q (k e)) :
    Tri Q (handle m k) := by
  refine ⟨pres_handle ext_rel.toStRel truePred hm.ext (fun e _ => (hk e).ext), fun s a s' hr q => ?_⟩
  unfold handle at hr
  split at hr
  · exact (hk _).post _ a s' hr q
  · exact hm.post s a s' hr q

theorem tri_mapM' {α β} {Q : β → Prop} {f : α → M β} (hf : ∀ x, Tri Q (f x)) :
    ∀ xs, Tri (fun l => ∀ a ∈ l, Q a) (mapM' f xs)
  | [] => by unfold mapM'; exact tri_pure (by simp)
  | x :: xs => by
    unfold mapM'
    refine tri_bind (hf x) (fun y => tri_bind (tri_mapM' hf xs) (fun ys => tri_pure ?_))
    intro hys hy a ha
    rcases List.mem_cons.mp ha with rfl | h
    · exact hy
    · exact hys a h

theorem tri_filterM' {α} {Qf : α → Prop} {f : α → M Bool} (hf : ∀ x, Tri (fun b => b = true → Qf x) (f x)) :
    ∀ xs, Tri (fun l => ∀ a ∈ l, a ∈ xs ∧ Qf a) (filterM' f xs)
  | [] => by unfold filterM'; exact tri_pure (by simp)
  | x :: xs => by
    unfold filterM'
    refine tri_bind (hf x) (fun b => tri_bind (tri_filterM' hf xs) (fun ys => tri_pure ?_))
    intro hys hb a ha
    by_cases hbt : b = true
    · simp only [hbt, if_true] at ha
      rcases List.mem_cons.mp ha with rfl | h
      · exact ⟨by simp, hb hbt⟩
      · exact ⟨List.mem_cons_of_mem _ (hys a h).1, (hys a h).2⟩
    · simp only [hbt] at ha
      exact ⟨List.mem_cons_of_mem _ (hys a ha).1, (hys a ha).2⟩

/-- a whole-dictionary read ends the obligation -/
theorem tri_readAll {Q : Unit → Prop} : Tri Q (emit Event.readAll) :=
  ⟨pres_emit ext_rel.toStRel truePred _ rfl, fun s a s' hr q => by
    simp only [emit_run, Option.some.injEq, Prod.mk.injEq] at hr
    have := q Event.readAll (by rw [← hr.2]; simp)
    simp [Event.isReadAll] at this⟩

/-- every element of the set is a string naming a key that is present in `o` -/
def KeysOk (o : V) (v : V) : Prop := ∀ k ∈ v.setElems, ∃ s w, k = V.str s ∧ getDotted s o = Lk.found w

theorem keysOk_empty (o : V) : KeysOk o (.set []) := by intro k hk; simp [V.setElems] at hk

theorem keysOk_unionV {o a b : V} (ha : KeysOk o a) (hb : KeysOk o b) : KeysOk o (unionV a b) := by
  intro k hk
  simp only [unionV, V.setElems, unionKeys, List.mem_append, List.mem_filter] at hk
  rcases hk with h | ⟨h, _⟩
  · exact ha k h
  · exact hb k h

theorem keysOk_foldl {o : V} : ∀ (vs : List V) (acc : V), KeysOk o acc → (∀ v ∈ vs, KeysOk o v) →
    KeysOk o (vs.foldl unionV acc)
  | [], acc, h, _ => h
  | v :: vs, acc, h, hv => by
    simp only [List.foldl_cons]
    exact keysOk_foldl vs _ (keysOk_unionV h (hv v (by simp))) (fun w hw => hv w (by simp [hw]))

theorem keysOk_unionAll {o : V} {vs : List V} (h : ∀ v ∈ vs, KeysOk o v) : KeysOk o (unionAll vs) :=
  keysOk_foldl vs _ (keysOk_empty o) h

theorem keysOk_single {o : V} {key : String} {w : V} (h : getDotted key o = .found w) : KeysOk o (keySet [key]) := by
  intro k hk
  simp [keySet, dedup, V.setElems] at hk
  exact ⟨key, w, hk, h⟩

theorem keysOk_subset {o : V} {v : V} {l : List V} (h : KeysOk o v) (hl : ∀ k ∈ l, k ∈ v.setElems) : KeysOk o (.set l) := by
  intro k hk
  exact h k (hl k (by simpa [V.setElems] using hk))

theorem tri_existsKey (key : String) (o : V) :
    Tri (fun b => (b = true → ∃ w, getDotted key o = .found w) ∧ (b = false → getDotted key o = .keyErr)) (existsKey key o) :=
  ⟨pres_existsKey ext_rel.toStRel truePred key o, fun s b s' hr _ => by
    have h := (existsKey_eq_ok.mp hr).1
    cases b <;> simp_all⟩

theorem tri_getKey (key : String) (o : V) : Tri (fun v => getDotted key o = .found v) (getKey key o) :=
  ⟨pres_getKey ext_rel.toStRel truePred key o, fun _ _ _ hr _ => (getKey_eq_ok.mp hr).1⟩

/-- what a child run guarantees: for `keys`, a set of present keys; nothing about the other operations -/
def QK (op : Op) (o : V) (v : V) : Prop := op = .keys → KeysOk o v

section
variable {run : Run} (hrun : ∀ op e o, Tri (QK op o) (run op e o))
include hrun

theorem tri_run_keys (e : Expr) (o : V) : Tri (KeysOk o) (run .keys e o) := tri_weaken (fun _ h => h rfl) (hrun .keys e o)

theorem espec_run (op : Op) (e : Expr) (o : V) : ESpec (run op e o) := (hrun op e o).ext

theorem tri_run_any (op : Op) (e : Expr) (o : V) : Tri (fun _ => True) (run op e o) := tri_of_spec (espec_run hrun op e o)

theorem tri_unionOver_keys (xs : List Expr) (o : V) : Tri (KeysOk o) (unionOver run .keys xs o) := by
  unfold unionOver
  exact tri_bind (tri_mapM' (fun x => tri_run_keys hrun x o) xs) (fun vs => tri_pure (fun h => keysOk_unionAll h))

theorem tri_optionOp_keys (env : Env) (n : Nat) (self : Expr) (id : Nat) (key : String) (dflt dom : Option Expr) (o : V) :
    Tri (KeysOk o) (optionOp env run n self id key dflt dom .keys o) := by
  unfold optionOp
  simp only []
  have hdom : Tri (KeysOk o) (match dom with
      | Option.none => pure (.set [])
      | some de => run .keys de o) := by
    cases dom with
    | none => exact tri_pure (keysOk_empty o)
    | some de => exact tri_run_keys hrun de o
  refine tri_bind hdom (fun dk => tri_bind (tri_existsKey key o) (fun b => ?_))
  split
  · refine tri_bind (tri_getKey key o) (fun raw => tri_bind
      (tri_bind (tri_mapM' (fun p => tri_run_keys hrun _ o) _) (fun vs => tri_pure (fun h => keysOk_unionAll h)))
      (fun tk => tri_pure ?_))
    intro htk hraw _ hdk
    exact keysOk_unionV (keysOk_unionV (keysOk_single hraw) hdk) htk
  · cases dflt with
    | none => exact tri_raise _
    | some d =>
      refine tri_bind (tri_run_keys hrun d o) (fun k => tri_pure ?_)
      intro hkd _ hdk
      exact keysOk_unionV hkd hdk

omit hrun in
theorem tri_pseudo_keys {α} {Q : α → Prop} (pid : Nat) {m : M α} (hm : Tri Q m) : Tri Q (pseudo .keys pid m) := by
  unfold pseudo
  refine tri_bind (tri_of_spec (pres_emit ext_rel.toStRel truePred _ rfl)) (fun _ => ?_)
  simp only [reduceCtorEq, if_false]
  exact tri_weaken (fun _ h _ => h) hm

theorem tri_bindOp_keys (id : Nat) (x : Expr) {k : V → M Expr} (hcont : ∀ v, ESpec (k v)) (o : V) :
    Tri (KeysOk o) (bindOp run id x k .keys o) := by
  unfold bindOp
  simp only []
  refine tri_bind (tri_run_keys hrun x o) (fun a => tri_bind (tri_run_any hrun .evaluate x o) (fun v =>
    tri_bind (tri_of_spec (hcont v)) (fun e' => tri_bind (tri_run_keys hrun e' o) (fun b => tri_pure ?_))))
  intro hb _ _ ha
  exact keysOk_unionV ha hb

theorem tri_switchOp_keys (id : Nat) (d : Expr) (lookup : List (V × Expr)) (dflt : Option Expr) (o : V) :
    Tri (KeysOk o) (switchOp run id d lookup dflt .keys o) := by
  unfold switchOp
  simp only []
  exact tri_bind (tri_of_spec (pres_switchLookup ext_rel.toStRel truePred (espec_run hrun) id d lookup dflt o))
    (fun chosen => tri_weaken (fun _ h _ => h) (tri_run_keys hrun chosen o))

theorem tri_coalesceDelegate_keys (o : V) : ∀ (last : Option Err) (ms : List Expr),
    Tri (KeysOk o) (coalesceDelegate run .keys o last ms)
  | last, [] => by
    unfold coalesceDelegate
    cases last <;> exact tri_raise _
  | last, m :: rest => by
    unfold coalesceDelegate
    refine tri_handle (tri_bind (tri_run_any hrun .validate m o) (fun _ => tri_weaken (fun _ h _ => h) (tri_run_keys hrun m o))) (fun err => ?_)
    split
    · exact tri_coalesceDelegate_keys o _ rest
    · exact tri_raise _

theorem tri_mapOp_keys (id : Nat) (x : Expr) (its : List (String × Expr)) (o : V) :
    Tri (KeysOk o) (mapOp run id x its .keys o) := by
  unfold mapOp
  simp only []
  refine tri_bind (tri_of_spec (pres_mapAssignments ext_rel.toStRel truePred (espec_run hrun) its o)) (fun asg => ?_)
  refine tri_bind (tri_mapM' (Q := KeysOk o) (fun a => tri_bind
      (tri_of_spec (pres_mapElement ext_rel.toStRel truePred id x a)) (fun w => tri_weaken (fun _ h _ => h) (tri_run_keys hrun w o))) asg)
    (fun ks => ?_)
  refine tri_bind (tri_bind (tri_mapM' (Q := KeysOk o) (fun p => tri_run_keys hrun p.2 o) its)
    (fun vs => tri_pure (fun h => keysOk_unionAll h))) (fun ik => tri_pure ?_)
  intro hik hks _
  exact keysOk_unionV (keysOk_unionAll hks) hik

theorem tri_templateOp_keys (n id : Nat) (t : String) (params : List (String × Expr)) (o : V) :
    Tri (KeysOk o) (templateOp run n id t params .keys o) := by
  unfold templateOp
  simp only []
  split
  · exact tri_raise _
  · refine tri_bind (tri_mapM' (Q := KeysOk o) (fun p => tri_run_keys hrun p.2 o) params) (fun pk => ?_)
    refine tri_bind (tri_mapM' (Q := KeysOk o) (fun p => tri_handle (tri_run_keys hrun _ o) (fun err => ?_)) _) (fun ks => tri_pure ?_)
    · split
      · split <;> exact tri_raise _
      · exact tri_raise _
    · intro hks hpk
      exact keysOk_unionV (keysOk_unionAll hpk) (keysOk_unionAll hks)

omit hrun in
/-- a key found in the merged options that the pre-set options do not have is the caller's own -/
theorem found_of_mixed {s : String} {o p : V} {force : Bool} {w : V}
    (hm : getDotted s (if force then mix o p else mix p o) = .found w) (hp : getDotted s p = .keyErr) :
    ∃ w', getDotted s o = .found w' := by
  unfold getDotted at *
  cases force with
  | true =>
    simp only [if_true] at hm
    rcases walk_mix_found _ _ _ _ hm with h | ⟨w', h⟩
    · exact h
    · rw [hp] at h; cases h
  | false =>
    simp only [Bool.false_eq_true, if_false] at hm
    rcases walk_mix_found _ _ _ _ hm with ⟨w', h⟩ | h
    · rw [hp] at h; cases h
    · exact h

theorem tri_withOptionsOp_keys (x : Expr) (p : V) (force : Bool) (o : V) :
    Tri (KeysOk o) (withOptionsOp run x p force .keys o) := by
  unfold withOptionsOp
  extract_lets mixed provides filtered
  -- `_provides(s)` answers no only for a key that, if the merged options have it, the caller's own options have
  have hprov : ∀ s, Tri (fun b => b = false → (∃ w, getDotted s mixed = .found w) → ∃ w, getDotted s o = .found w)
      (provides s) := by
    intro s
    simp only [provides]
    refine tri_bind (tri_existsKey s p) fun ep => ?_
    split
    · -- the pre-set options do not have it
      rename_i hep
      exact tri_pure fun hp _ ⟨_, hw⟩ => found_of_mixed hw (hp.2 (by simpa using hep))
    split
    · -- default options provide what the caller does not have
      exact tri_bind (tri_existsKey s o) fun ex => tri_pure fun hex _ hb _ => hex.1 (by simpa using hb)
    -- forced options provide a key unless both sides hold a section under it
    refine tri_bind (tri_getKey s p) fun pv => ?_
    split
    · exact tri_pure fun _ _ h => by cases h
    refine tri_bind (tri_existsKey s o) fun ex => ?_
    split
    · exact tri_pure fun _ _ _ h => by cases h
    · exact tri_bind (tri_getKey s o) fun ov => tri_pure fun hov _ _ _ _ _ => ⟨ov, hov⟩
  clear_value provides
  refine tri_bind (tri_run_keys hrun x mixed) fun ks => ?_
  simp only [filtered]
  refine tri_bind (tri_filterM' (Qf := fun k => ∀ s, k = V.str s →
      (∃ w, getDotted s mixed = .found w) → ∃ w, getDotted s o = .found w) (fun k => ?_) ks.setElems)
    fun kept => tri_pure ?_
  · split
    · exact tri_bind (hprov _) fun b => tri_pure fun hb hbt s' hs' => by cases hs'; exact hb (by simpa using hbt)
    · rename_i hns
      exact tri_pure fun _ s hs => (hns s hs).elim
  · intro hkept hks k hk
    obtain ⟨hmem, hq⟩ := hkept k hk
    obtain ⟨s, w, rfl, hw⟩ := hks k hmem
    obtain ⟨w', hw'⟩ := hq s rfl ⟨w, hw⟩
    exact ⟨s, w', rfl, hw'⟩

theorem tri_applicationOp_keys (env : Env) (id : Nat) (f : Expr) (args : List Expr) (kw : List (String × Expr))
    (partial_ : Bool) (o : V) : Tri (KeysOk o) (applicationOp env run id f args kw partial_ .keys o) := by
  unfold applicationOp
  simp only []
  have hargs : Tri (KeysOk o) (pseudo .keys (tid id 1) (do
      let x ← pseudo .keys (tid id 2) (unionOver run .keys args o)
      let y ← pseudo .keys (tid id 3) (unionOver run .keys (kw.map Prod.snd) o)
      pure (unionV x y))) := by
    apply tri_pseudo_keys
    refine tri_bind (tri_pseudo_keys _ (tri_unionOver_keys hrun args o)) (fun x =>
      tri_bind (tri_pseudo_keys _ (tri_unionOver_keys hrun _ o)) (fun y => tri_pure ?_))
    intro hy hx; exact keysOk_unionV hx hy
  refine tri_bind (tri_run_keys hrun f o) (fun a => tri_bind hargs (fun b => tri_pure ?_))
  intro hb ha; exact keysOk_unionV ha hb

/-- **one step.** `keys` of any node reports present keys only, provided `keys` of whatever it runs does (and no
    `AllOptions` is consulted) -/
theorem tri_nodeOp_keys (env : Env) (n : Nat) (e : Expr) (o : V) : Tri (KeysOk o) (nodeOp env run n .keys e o) := by
  have hpair : ∀ x y : Expr, Tri (KeysOk o) (do let a ← run .keys x o; let b ← run .keys y o; pure (unionV a b)) :=
    fun x y => tri_bind (tri_run_keys hrun x o) (fun a => tri_bind (tri_run_keys hrun y o) (fun b =>
      tri_pure (fun hb ha => keysOk_unionV ha hb)))
  cases e <;> unfold nodeOp <;> simp only []
  case value => exact tri_pure (keysOk_empty o)
  case option => exact tri_optionOp_keys hrun ..
  case apply => exact hpair _ _
  case bind =>
    apply tri_bindOp_keys hrun
    intro v; split
    · exact pres_pure ext_rel.toStRel truePred _
    · exact pres_raise ext_rel.toStRel truePred trivial
  case switch => exact tri_switchOp_keys hrun ..
  case dependsOn => exact hpair _ _
  case caseWhen =>
    apply tri_pseudo_keys
    apply tri_bindOp_keys hrun
    intro v; exact pres_chooseCase ext_rel.toStRel truePred (espec_run hrun) ..
  case coalesce => unfold coalesceOp; simp only []; exact tri_coalesceDelegate_keys hrun ..
  case iter => exact tri_unionOver_keys hrun ..
  case map => exact tri_mapOp_keys hrun ..
  case template => exact tri_templateOp_keys hrun ..
  case withOptions => exact tri_withOptionsOp_keys hrun ..
  case allOptions =>
    refine tri_bind (Q1 := fun _ => False) tri_readAll (fun _ => tri_weaken (fun _ _ h => h.elim) (tri_of_spec ?_))
    split <;> exact pres_pure ext_rel.toStRel truePred _
  case cached => unfold cachedOp; simp only []; exact tri_run_keys hrun ..
  case logged => exact tri_run_keys hrun ..
  case computation => unfold computationOp; simp only []; exact tri_run_keys hrun ..
  case funApp => exact tri_applicationOp_keys hrun ..
  case partialApp => exact tri_applicationOp_keys hrun ..
  case pipelineStep => exact tri_run_keys hrun ..
  case pipeline =>
    refine tri_bind (tri_run_keys hrun _ o) (fun a => ?_)
    split
    · exact tri_bind (tri_run_keys hrun _ o) (fun b => tri_pure (fun hb ha => keysOk_unionV ha hb))
    · exact tri_pure (fun ha => ha)
  case overloaded => exact tri_run_keys hrun ..
  case dataset => exact tri_run_keys hrun ..
  case «namespace» => unfold namespaceOp; simp only []; exact tri_unionOver_keys hrun ..

end

/-- the interpreter: every operation extends the log; `keys` returns present keys -/
theorem tri_ev (env : Env) : ∀ (n : Nat) (op : Op) (e : Expr) (o : V), Tri (QK op o) (ev env n op e o)
  | 0, op, e, o => tri_outOfFuel
  | n + 1, .keys, e, o => by
    rw [ev_succ]
    exact tri_bind (tri_of_spec (pres_emit ext_rel.toStRel truePred _ rfl)) fun _ =>
      tri_weaken (fun _ h _ _ => h) (tri_nodeOp_keys (tri_ev env n) env n e o)
  | n + 1, .evaluate, e, o | n + 1, .validate, e, o | n + 1, .explain, e, o =>
    tri_weaken (fun _ _ h => by cases h) (tri_of_spec (spec_ev ext_rel truePred env (ext_log env) _ _ e o))

end Labrea
