/-
  Cache transparency of a real dataset, for all histories.

  `@dataset def d(p = Option(key)): return body(p=p)` — one option-valued parameter, no dispatch, no effects, the
  identity callback, a `MemoryCache` — is composed by `Dataset._composed` as
  `WithOptions(WithOptions(Cached(Logged(Computation(Apply(Overloaded, callback), effects))), options), defaults)`.
  The hypotheses of the reduction (`FpHyp`, CacheTransparency.lean) are proved here for the node
  the dataset's cache wraps, under the real interpreter, for every dotted key, every environment of that shape, every
  fuel ≥ 9 and every state, on the dictionaries that hold an integer under the key and do not set the library's
  switches.
-/
import LabreaModel.Uniform
import LabreaModel.FaultyTransparency
namespace Labrea

/-- the lifted function application `body(p = Option(key))` -/
def dsBody (key pname body : String) : Expr :=
  .funApp 21 (.value 22 (.fn body [] [])) [] [(pname, .option 23 key Option.none Option.none)]

/-- `Pipeline()` : the identity callback -/
def dsCallback : Expr := .pipeline 24 (.pipelineStep 25 (.value 26 (.fn "py:identity" [] []))) Option.none

/-- what the dataset's `Cached` wraps -/
def dsInner (id ovid : Nat) (msg : String) : Expr :=
  .logged (tid id 3) (.computation (tid id 2) (.apply (tid id 1) (.overloaded (tid id 7) ovid) dsCallback) []) msg

structure SimpleDataset (env : Env) (ovid cid : Nat) (key pname body : String) (out : Int → V) : Prop where
  subst : env.subst = Option.none
  logOn : env.logCtxOff = false
  cacheOn : env.cacheCtxOff = false
  ov : env.ov ovid = { dispatch := .value 20 .missing, table := [], dflt := some (dsBody key pname body) }
  β : ∀ i, env.β body [] [(pname, .int i)] = .ok (out i)

/-- the dictionaries of the history: an integer under `key`, none of the library's switches set -/
structure DsDict (key : String) (o : V) : Prop where
  int : ∃ i, getDotted key o = .found (.int i)
  c1 : getDotted "LABREA.CACHE.DISABLED" o = .keyErr
  c2 : getDotted "LABREA.CACHE.DISABLE" o = .keyErr
  l : getDotted "LABREA.LOGGING.DISABLED" o = .keyErr
  e : getDotted "LABREA.EFFECTS.DISABLED" o = .keyErr

def intOf (key : String) (o : V) : Int := match getDotted key o with | .found (.int i) => i | _ => 0

section
variable {env : Env} {ovid cid : Nat} {key pname body : String} {out : Int → V}
variable (H : SimpleDataset env ovid cid key pname body out) {o : V} (ho : DsDict key o) {n : Nat}
include H ho

omit H in
theorem ds_int : getDotted key o = .found (.int (intOf key o)) := by
  obtain ⟨i, hi⟩ := ho.int
  simp [intOf, hi]

theorem ev_body : U (ev env (n + 3) .evaluate (dsBody key pname body) o) (.ok (out (intOf key o))) := by
  refine u_ev_evaluate H.subst (u_funApp (av := fun _ => .none) (kv := fun _ => .int (intOf key o))
    (evs := [.call body [] [(pname, .int (intOf key o))]]) (ev_value H.subst) (by simp) ?_ ?_)
  · intro p hp
    cases List.mem_singleton.mp hp
    exact ev_option_present H.subst (ds_int ho) rfl
  · simp [callV, builtin, mergeKw, ainsert, H.β]

omit H ho in
theorem hashable_missing : hashable V.missing = true := by decide +kernel

theorem ev_overloaded {id : Nat} : U (ev env (n + 6) .evaluate (.overloaded id ovid) o) (.ok (out (intOf key o))) := by
  refine u_ev_evaluate H.subst (u_overloaded ?_)
  rw [H.ov]
  exact u_ev_evaluate H.subst (u_switch_default (by decide) (ev_value H.subst) hashable_missing rfl
    (u_ev_evaluate H.subst (u_dependsOn_evaluate (ev_body H ho))))

theorem ev_callback : U (ev env (n + 3) .evaluate dsCallback o) (.ok (.comp [.fn "py:identity" [] []])) :=
  u_ev_evaluate H.subst (u_pipeline_single (u_ev_evaluate H.subst (u_pipelineStep (ev_value H.subst))))

theorem ev_inner {id : Nat} {msg : String} :
    U (ev env (n + 9) .evaluate (dsInner id ovid msg) o) (.ok (out (intOf key o))) :=
  u_ev_evaluate H.subst <| u_logged H.logOn (ev_switch_option H.subst ho.l) <|
    u_ev_evaluate H.subst <| u_computation_noeffects (sw := .bool false)
      (u_ev_evaluate H.subst <| u_apply (evs := []) (fun _ _ h => by cases h) (fun _ _ _ h => by cases h)
        (ev_overloaded H ho) (ev_callback H ho) (by simp [callV, callChain, builtin]))
      (ev_switch_option H.subst ho.e)

theorem ev_body_keys : U (ev env (n + 2) .keys (dsBody key pname body) o) (.ok (keySet [key])) := by
  have h := u_funApp_keys (env := env) (n := n + 1) (id := 21) (args := []) (kw := [(pname, .option 23 key Option.none Option.none)])
    (ak := fun _ => keySet [key]) (ev_value_keys (env := env) (n := n) (o := o) (id := 22) (v := .fn body [] [])) (by simp)
    (by simp only [List.map_cons, List.map_nil, List.mem_singleton, forall_eq]; exact ev_option_keys (ds_int ho) rfl)
  simp only [List.map_cons, List.map_nil, unionAll, List.foldl_cons, List.foldl_nil, keySet, unionV_nil_left] at h
  exact u_ev_keys h

theorem ev_inner_keys {id : Nat} {msg : String} : U (ev env (n + 9) .keys (dsInner id ovid msg) o) (.ok (keySet [key])) := by
  have hsw : U (ev env (n + 6) .keys (.overloaded (tid id 7) ovid) o) (.ok (keySet [key])) := by
    refine u_ev_keys (u_overloaded ?_)
    rw [H.ov, ← unionV_keySet_nil [key]]
    exact u_ev_keys (u_switch_default (by intro h; cases h) (ev_value H.subst) hashable_missing rfl
      (u_ev_keys (u_dependsOn_keys (ev_body_keys H ho) ev_value_keys)))
  have hcb : U (ev env (n + 6) .keys dsCallback o) (.ok (.set [])) :=
    u_ev_keys (u_pipeline_single_keys (u_ev_keys (u_pipelineStep ev_value_keys)))
  exact u_ev_keys (u_logged_keys (u_ev_keys (u_computation_keys (u_ev_keys (unionV_keySet_nil [key] ▸ u_apply_keys hsw hcb)))))

theorem ds_fingerprint {id : Nat} {msg : String} :
    U (fingerprintOf (ev env (n + 9)) (dsInner id ovid msg) o) (.ok (.list [.dict [(key, .int (intOf key o))]])) :=
  u_fingerprint_single (ev_inner_keys H ho) (by simp [keyStrings, keySet, dedup, V.setElems]) (ds_int ho)

end

theorem FpHyp.of_U {env : Env} {run : Run} {x : Expr} {c : Nat} {D : V → Prop} {fp : V → V} {den : V → Except Err V}
    (hen : ∀ o, D o → U (cacheDisabled env run o) (.ok false)) (hfp : ∀ o, D o → U (fingerprintOf run x o) (.ok (fp o)))
    (hin : ∀ o, D o → U (run .evaluate x o) (den o)) (hs : ∀ o o', D o → D o' → fp o = fp o' → den o = den o') :
    FpHyp env run x c D fp den :=
  ⟨fun o ho => (hen o ho).E c, fun o ho => (hfp o ho).E c, fun o ho => (hin o ho).E c, hs⟩

/-- **the hypotheses of the reduction hold of a real dataset**, whatever the kind of its cache -/
theorem dataset_fpHyp {env : Env} {ovid cid : Nat} {key pname body : String} {out : Int → V}
    (H : SimpleDataset env ovid cid key pname body out) (n id : Nat) (msg : String) :
    FpHyp env (ev env (n + 9)) (dsInner id ovid msg) cid (DsDict key)
      (fun o => .list [.dict [(key, .int (intOf key o))]]) (fun o => .ok (out (intOf key o))) :=
  .of_U (fun _ ho => u_cacheDisabled H.subst H.cacheOn ho.c1 ho.c2) (fun _ ho => ds_fingerprint H ho)
    (fun _ ho => ev_inner H ho) (by
      intro o o' _ _ h
      simp only [V.list.injEq, List.cons.injEq, V.dict.injEq, Prod.mk.injEq, V.int.injEq, true_and, and_true] at h
      rw [h])

theorem dataset_fingerprint_sound {env : Env} {ovid cid : Nat} {key pname body : String} {out : Int → V}
    (H : SimpleDataset env ovid cid key pname body out) (hk : env.cacheKind cid = .memory) (n id : Nat) (msg : String) :
    FingerprintSound env (ev env (n + 9)) (dsInner id ovid msg) cid (DsDict key)
      (fun o => .list [.dict [(key, .int (intOf key o))]]) (fun o => .ok (out (intOf key o))) :=
  (dataset_fpHyp H n id msg).memory hk

theorem dataset_fingerprint_soundF {env : Env} {ovid cid : Nat} {key pname body : String} {out : Int → V}
    (H : SimpleDataset env ovid cid key pname body out) (hk : env.cacheKind cid = .scripted) (n id : Nat) (msg : String) :
    FingerprintSoundF env (ev env (n + 9)) (dsInner id ovid msg) cid (DsDict key)
      (fun o => .list [.dict [(key, .int (intOf key o))]]) (fun o => .ok (out (intOf key o))) :=
  (dataset_fpHyp H n id msg).scripted hk

end Labrea
