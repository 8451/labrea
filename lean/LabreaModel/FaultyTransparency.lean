/-
  The hypotheses of the reduction for the scripted (unreliable) backend.  Its transparency (C17 at full strength) is
  `t_cached_evaluate` / `history_transparent` of CacheTransparency.lean, which do not ask what kind the backend is.
-/
import LabreaModel.CacheTransparency
namespace Labrea

/-- as `FingerprintSound`, for a scripted (faulty) backend -/
structure FingerprintSoundF (env : Env) (run : Run) (x : Expr) (c : Nat) (D : V → Prop)
    (fp : V → V) (den : V → Except Err V) : Prop where
  scripted : env.cacheKind c = .scripted
  enabled : ∀ o, D o → ∀ s, ∃ s', cacheDisabled env run o s = some (.ok false, s') ∧ s'.E c = s.E c
  fingerprint : ∀ o, D o → ∀ s, ∃ s', fingerprintOf run x o s = some (.ok (fp o), s') ∧ s'.E c = s.E c
  inner : ∀ o, D o → ∀ s, ∃ s', run .evaluate x o s = some (den o, s') ∧ s'.E c = s.E c
  sufficient : ∀ o o', D o → D o' → fp o = fp o' → den o = den o'

section
variable {env : Env} {run : Run} {x : Expr} {c : Nat} {D : V → Prop} {fp : V → V} {den : V → Except Err V}

theorem FingerprintSoundF.hyp (H : FingerprintSoundF env run x c D fp den) : FpHyp env run x c D fp den :=
  ⟨H.enabled, H.fingerprint, H.inner, H.sufficient⟩

theorem FpHyp.scripted (H : FpHyp env run x c D fp den) (hk : env.cacheKind c = .scripted) :
    FingerprintSoundF env run x c D fp den :=
  ⟨hk, H.enabled, H.fingerprint, H.inner, H.sufficient⟩

theorem faulty_history_transparent (H : FingerprintSoundF env run x c D fp den) (hist : List V) (hD : ∀ o ∈ hist, D o)
    (s : St) (hinv : StoreInv c D fp den s) (o : V) (ho : D o) (s1 : St)
    (hs : (hist.foldl (fun (st : Option St) oi => st.bind fun t =>
        (cachedOp env run x c .evaluate oi t).map Prod.snd) (some s)) = some s1)
    (r : Except Err V) (s2 : St) (h : cachedOp env run x c .evaluate o s1 = some (r, s2)) : r = den o :=
  history_transparent H.hyp hist hD s hinv o ho s1 hs r s2 h

theorem tm_cached_evaluate (H : FingerprintSound env run x c D fp den) (o : V) (ho : D o) :
    T (StoreInv c D fp den) (cachedOp env run x c .evaluate o) (· = den o) :=
  t_cached_evaluate H.hyp o ho

end
end Labrea
