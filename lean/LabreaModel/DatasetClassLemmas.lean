/-
  C19 — lemmas about the dataset-class model: `set_dotted_key` against nested lookups, the fold
  that builds `_repr_options`, Python dict equality (`V.le`, a preorder), the restriction as the
  least dictionary holding the keys, the loops of `__init__` and of the metaclass, and the
  fixtures of the examples in `LabreaProps/C19.lean`.
-/
import LabreaModel.DatasetClass
import LabreaModel.MixLemmas
namespace Labrea.DatasetClass
open Labrea

theorem ainsert_same_id {k : String} {v : V} {d : List (String × V)} (h : alookup k d = some v) :
    ainsert k v d = d := by
  induction d with
  | nil => simp [alookup] at h
  | cons p rest ih =>
    obtain ⟨k', v'⟩ := p
    by_cases hk : k' = k
    · subst hk; simp [alookup] at h; simp [ainsert, h]
    · simp [alookup, hk] at h; simp [ainsert, hk, ih h]

@[simp] theorem dget_nil (v : V) : dget [] v = some v := by simp [dget]

theorem dget_cons_dict (a : String) (p : Path) (d : List (String × V)) :
    dget (a :: p) (.dict d) = (alookup a d).bind (dget p) := by
  rw [dget]; cases alookup a d <;> rfl

@[simp] theorem dget_singleton (a : String) (d : List (String × V)) :
    dget [a] (.dict d) = alookup a d := by
  rw [dget_cons_dict]; cases alookup a d <;> rfl

theorem dget_cons_some {a : String} {p : Path} {x v : V} (h : dget (a :: p) x = some v) :
    ∃ d y, x = .dict d ∧ alookup a d = some y ∧ dget p y = some v := by
  cases x <;> simp [dget] at h
  rename_i d
  cases hl : alookup a d with
  | none => simp [hl] at h
  | some y => simp [hl] at h; exact ⟨d, y, rfl, hl, h⟩

theorem dget_append (p q : Path) (x : V) :
    dget (p ++ q) x = (dget p x).bind (dget q) := by
  induction p generalizing x with
  | nil => simp
  | cons a p ih =>
    cases x <;> simp [dget]
    rename_i d
    cases alookup a d with
    | none => simp
    | some y => simp [ih]

theorem dget_nonempty_empty {p : Path} (h : p ≠ []) : dget p (.dict []) = Option.none := by
  cases p with
  | nil => exact absurd rfl h
  | cons a p => simp [dget, alookup]

theorem walk_append (p q : Path) (x : V) :
    walk (p ++ q) x = match walk p x with
      | .found v => walk q v
      | .keyErr => .keyErr
      | .typeErr => .typeErr := by
  induction p generalizing x with
  | nil => simp [walk]
  | cons a p ih =>
    simp only [List.cons_append, walk]
    cases step a x with
    | found v => simp [ih]
    | keyErr => rfl
    | typeErr => rfl

theorem step_noidx {s : String} (hs : segIndex? s = Option.none) (x v : V) :
    step s x = .found v ↔ ∃ d, x = .dict d ∧ alookup s d = some v := by
  cases x <;> simp [step, hs]
  rename_i d
  cases alookup s d <;> simp

theorem NoIdx.cons {a : String} {p : Path} (h : NoIdx (a :: p)) :
    segIndex? a = Option.none ∧ NoIdx p :=
  ⟨h a (by simp), fun s hs => h s (by simp [hs])⟩

theorem NoIdx.append_left {p q : Path} (h : NoIdx (p ++ q)) : NoIdx p :=
  fun s hs => h s (by simp [hs])

theorem walk_cons_found {a : String} {p : Path} {x v : V} :
    walk (a :: p) x = .found v ↔ ∃ y, step a x = .found y ∧ walk p y = .found v := by
  rw [walk]; cases step a x <;> simp

theorem walk_found_iff_dget {p : Path} (hp : NoIdx p) (x v : V) :
    walk p x = .found v ↔ dget p x = some v := by
  induction p generalizing x with
  | nil => simp [walk]
  | cons a p ih =>
    obtain ⟨ha, hp'⟩ := hp.cons
    simp only [walk_cons_found, step_noidx ha, ih hp']
    constructor
    · rintro ⟨y, ⟨d, rfl, hl⟩, hy⟩
      simp [dget_cons_dict, hl, hy]
    · intro h
      obtain ⟨d, y, rfl, hl, hy⟩ := dget_cons_some h
      exact ⟨y, ⟨d, rfl, hl⟩, hy⟩

theorem setPath_cons_cons {a b : String} {q : Path} {v : V} {r r' : List (String × V)}
    (h : setPath (a :: b :: q) v r = some r') :
    ∃ s sub, setPath (b :: q) v s = some sub ∧ r' = ainsert a (.dict sub) r ∧
      (alookup a r = some (.dict s) ∨ alookup a r = Option.none ∧ s = []) := by
  simp only [setPath] at h
  split at h
  · obtain ⟨sub, hsub, rfl⟩ := Option.map_eq_some_iff.1 h
    exact ⟨[], sub, hsub, rfl, Or.inr ⟨‹_›, rfl⟩⟩
  · obtain ⟨sub, hsub, rfl⟩ := Option.map_eq_some_iff.1 h
    exact ⟨_, sub, hsub, rfl, Or.inl ‹_›⟩
  · cases h

theorem dget_setPath_same {k : Path} {v : V} {r r' : List (String × V)} (hk : k ≠ [])
    (h : setPath k v r = some r') : dget k (.dict r') = some v := by
  induction k generalizing r r' with
  | nil => exact absurd rfl hk
  | cons a p ih =>
    cases p with
    | nil => cases h; simp
    | cons b q =>
      obtain ⟨s, sub, hsub, rfl, _⟩ := setPath_cons_cons h
      simp [dget_cons_dict, ih (by simp) hsub]

theorem dget_setPath_incomparable {k : Path} {v : V} {r r' : List (String × V)} {q : Path}
    (hk : k ≠ []) (h1 : ¬ k <+: q) (h2 : ¬ q <+: k) (h : setPath k v r = some r') :
    dget q (.dict r') = dget q (.dict r) := by
  induction k generalizing q r r' with
  | nil => exact absurd rfl hk
  | cons a p ih =>
    cases q with
    | nil => exact absurd (List.nil_prefix) h2
    | cons b q' =>
      by_cases hba : b = a
      · subst hba
        rw [List.prefix_cons_inj] at h1 h2
        cases p with
        | nil => exact absurd List.nil_prefix h1
        | cons c p' =>
          have hq' : q' ≠ [] := fun e => h2 (e ▸ List.nil_prefix)
          obtain ⟨s, sub, hsub, rfl, hs⟩ := setPath_cons_cons h
          have := ih (by simp) h1 h2 hsub
          rcases hs with hs | ⟨hs, rfl⟩
          · simp [dget_cons_dict, hs, this]
          · simp [dget_cons_dict, hs, this, dget_nonempty_empty hq']
      · simp [dget_cons_dict, alookup_setPath_other hba h]

theorem setPath_idem {k : Path} {v : V} {r : List (String × V)} (hk : k ≠ [])
    (h : dget k (.dict r) = some v) : setPath k v r = some r := by
  induction k generalizing r with
  | nil => exact absurd rfl hk
  | cons a p ih =>
    obtain ⟨d, y, hd, hl, hy⟩ := dget_cons_some h
    cases hd
    cases p with
    | nil => cases hy; simp [setPath, ainsert_same_id hl]
    | cons b q =>
      obtain ⟨s, _, rfl, _, _⟩ := dget_cons_some hy
      simp [setPath, hl, ih (by simp) hy, ainsert_same_id hl]

theorem dict_of_dget_nonempty {t : Path} {x v : V} (ht : t ≠ []) (h : dget t x = some v) :
    ∃ d, x = .dict d := by
  cases t with
  | nil => exact absurd rfl ht
  | cons a t =>
    obtain ⟨d, _, rfl, _, _⟩ := dget_cons_some h
    exact ⟨d, rfl⟩

theorem setPath_succeeds {k : Path} (v : V) {r : List (String × V)}
    (h : ∀ q s x, k = q ++ s → q ≠ [] → s ≠ [] → dget q (.dict r) = some x → ∃ d, x = .dict d) :
    ∃ r', setPath k v r = some r' := by
  induction k generalizing r with
  | nil => exact ⟨r, by simp [setPath]⟩
  | cons a p ih =>
    cases p with
    | nil => simp [setPath]
    | cons b q =>
      simp only [setPath]
      cases hl : alookup a r with
      | none =>
        obtain ⟨sub, hsub⟩ := ih (r := []) fun q' _ x _ hq' _ hx => by
          simp [dget_nonempty_empty hq'] at hx
        simp [hsub]
      | some x =>
        obtain ⟨s, rfl⟩ := h [a] (b :: q) x rfl (by simp) (by simp) (by simp [dget_cons_dict, hl])
        obtain ⟨sub, hsub⟩ := ih (r := s) fun q' t x e hq' ht hx =>
          h (a :: q') t x (by simp [e]) (by simp) ht (by simp [dget_cons_dict, hl, hx])
        simp [hsub]

/-- invariant of the fold, in terms of the plain nested lookup -/
structure Inv (o : V) (K : List Path) (R : List (String × V)) : Prop where
  lookup : ∀ k ∈ K, dget k (.dict R) = dget k o
  exact : ∀ p v, p ≠ [] → dget p (.dict R) = some v → (∃ k ∈ K, k <+: p) ∨ (∃ k ∈ K, p <+: k)

theorem Inv.nil (o : V) : Inv o [] [] :=
  ⟨by simp, fun p v hp h => by simp [dget_nonempty_empty hp] at h⟩

theorem Inv.lookup_under {o : V} {K : List Path} {R : List (String × V)} (inv : Inv o K R)
    {k : Path} (hk : k ∈ K) (t : Path) : dget (k ++ t) (.dict R) = dget (k ++ t) o := by
  rw [dget_append, dget_append, inv.lookup k hk]

theorem at_or_above {K : List Path} {p : Path} (h : (∃ k ∈ K, k <+: p) ∨ (∃ k ∈ K, p <+: k)) :
    (∃ k ∈ K, ∃ t, p = k ++ t) ∨ (∃ k ∈ K, ∃ t, t ≠ [] ∧ k = p ++ t) := by
  rcases h with ⟨k, hk, t, rfl⟩ | ⟨k, hk, t, rfl⟩
  · exact .inl ⟨k, hk, t, rfl⟩
  · by_cases ht : t = []
    · exact .inl ⟨_, hk, [], by simp [ht]⟩
    · exact .inr ⟨_, hk, t, ht, rfl⟩

theorem Inv.write_ok {o : V} {Kd : List Path} {R : List (String × V)} (inv : Inv o Kd R)
    (hKd : Present o Kd) {k2 : Path} {v2 : V} (hv2 : dget k2 o = some v2) :
    ∃ R', setPath k2 v2 R = some R' := by
  refine setPath_succeeds v2 fun q s x e hq hs hx => ?_
  subst e
  rcases at_or_above (inv.exact q x hq hx) with ⟨k, hk, t, rfl⟩ | ⟨k, hk, t, ht, rfl⟩
  · -- under an earlier key `R` agrees with `o`, where `k2` goes on below
    rw [inv.lookup_under hk] at hx
    rw [dget_append, hx] at hv2
    exact dict_of_dget_nonempty hs hv2
  · -- strictly above an earlier key, which is found below
    obtain ⟨_, hn, vk, hvk⟩ := hKd _ hk
    rw [walk_found_iff_dget hn, ← inv.lookup _ hk, dget_append, hx] at hvk
    exact dict_of_dget_nonempty ht hvk

theorem Inv.write {o : V} {Kd : List Path} {R R' : List (String × V)} (inv : Inv o Kd R)
    {k2 : Path} {v2 : V} (hk2 : k2 ≠ []) (hv2 : dget k2 o = some v2)
    (hR' : setPath k2 v2 R = some R') : Inv o (Kd ++ [k2]) R' := by
  have hsame : dget k2 (.dict R') = some v2 := dget_setPath_same hk2 hR'
  refine ⟨fun k hk => ?_, fun p v hp hv => ?_⟩
  · rcases List.mem_append.1 hk with hkd | hk2'
    · by_cases c1 : k2 <+: k
      · obtain ⟨t, rfl⟩ := c1
        rw [dget_append, dget_append, hsame, hv2]
      · by_cases c2 : k <+: k2
        · -- an earlier key above the new one: the value is there already, nothing changes
          obtain ⟨t, rfl⟩ := c2
          have h1 : dget (k ++ t) (.dict R) = some v2 := by rw [inv.lookup_under hkd, hv2]
          rw [setPath_idem hk2 h1] at hR'
          cases hR'
          exact inv.lookup k hkd
        · rw [dget_setPath_incomparable hk2 c1 c2 hR']
          exact inv.lookup k hkd
    · obtain rfl : k = k2 := by simpa using hk2'
      rw [hsame, hv2]
  · by_cases c1 : k2 <+: p
    · exact Or.inl ⟨k2, by simp, c1⟩
    · by_cases c2 : p <+: k2
      · exact Or.inr ⟨k2, by simp, c2⟩
      · rw [dget_setPath_incomparable hk2 c1 c2 hR'] at hv
        exact (inv.exact p v hp hv).imp (fun ⟨k, hk, h⟩ => ⟨k, by simp [hk], h⟩)
          fun ⟨k, hk, h⟩ => ⟨k, by simp [hk], h⟩

theorem Present.append {o : V} {K K' : List Path} (h : Present o K) (h' : Present o K') :
    Present o (K ++ K') := by
  intro k hk
  rcases List.mem_append.1 hk with hk | hk
  · exact h k hk
  · exact h' k hk

theorem isRestrict_iff_inv {o : V} {K : List Path} {R : List (String × V)} (hK : Present o K) :
    IsRestrict o K R ↔ Inv o K R := by
  have conv : ∀ k ∈ K, (walk k (.dict R) = walk k o ↔ dget k (.dict R) = dget k o) := by
    intro k hk
    obtain ⟨_, hn, v, hv⟩ := hK k hk
    rw [hv, (walk_found_iff_dget hn o v).1 hv]
    exact walk_found_iff_dget hn _ v
  exact ⟨fun s => ⟨fun k hk => (conv k hk).1 (s.lookup k hk), s.exact⟩,
    fun i => ⟨fun k hk => (conv k hk).2 (i.lookup k hk), i.exact⟩⟩

theorem reprOptions_inv {o : V} {K Kd : List Path} {R : List (String × V)} (inv : Inv o Kd R)
    (hK : Present o (Kd ++ K)) : ∃ R', reprOptions o K R = .ok R' ∧ Inv o (Kd ++ K) R' := by
  induction K generalizing Kd R with
  | nil => exact ⟨R, by simp [reprOptions], by simpa using inv⟩
  | cons k K ih =>
    obtain ⟨hk, hn, v, hv⟩ := hK k (by simp)
    have hd : dget k o = some v := (walk_found_iff_dget hn o v).1 hv
    obtain ⟨R1, hR1⟩ := inv.write_ok (fun k' hk' => hK k' (by simp [hk'])) hd
    obtain ⟨R', hR', inv'⟩ := ih (inv.write hk hd hR1) (by simpa using hK)
    exact ⟨R', by simp [reprOptions, hv, hR1, hR'], by simpa using inv'⟩

theorem reprOptions_isRestrict {o : V} {K : List Path} (hK : Present o K) :
    ∃ R, reprOptions o K [] = .ok R ∧ IsRestrict o K R := by
  obtain ⟨R, hR, inv⟩ := reprOptions_inv (Kd := []) (Inv.nil o) hK
  exact ⟨R, hR, (isRestrict_iff_inv hK).2 (by simpa using inv)⟩

theorem mem_insertKey {k x : Path} {xs : List Path} : x ∈ insertKey k xs ↔ x = k ∨ x ∈ xs := by
  induction xs with
  | nil => simp [insertKey]
  | cons y ys ih =>
    simp only [insertKey]
    by_cases h1 : k = y
    · subst h1; simp
    · by_cases h2 : dotted k < dotted y
      · simp [h1, h2]
      · simp [h1, h2, ih, or_left_comm]

theorem mem_sortKeys {x : Path} {K : List Path} : x ∈ sortKeys K ↔ x ∈ K := by
  induction K with
  | nil => simp [sortKeys]
  | cons k K ih => simp [sortKeys, mem_insertKey, ih]

theorem Present.sortKeys {o : V} {K : List Path} (h : Present o K) : Present o (sortKeys K) :=
  fun k hk => h k (mem_sortKeys.1 hk)

theorem mem_of_alookup {k : String} {v : V} {a : List (String × V)} (h : alookup k a = some v) :
    (k, v) ∈ a := by
  induction a with
  | nil => simp [alookup] at h
  | cons p rest ih =>
    obtain ⟨k', v'⟩ := p
    by_cases e : k' = k
    · subst e; simp [alookup] at h; subst h; simp
    · simp [alookup, e] at h; simp [ih h]

theorem V.le_induction {P : V → Prop}
    (dict : ∀ d, (∀ k v, alookup k d = some v → P v) → P (.dict d))
    (list : ∀ l, (∀ x ∈ l, P x) → P (.list l))
    (atom : ∀ a, (∀ d, a ≠ .dict d) → (∀ l, a ≠ .list l) → P a) (a : V) : P a := by
  induction hn : sizeOf a using Nat.strongRecOn generalizing a with
  | _ n ih =>
    subst hn
    cases a with
    | dict d =>
      refine dict d fun k v hv => ih _ ?_ v rfl
      have := List.sizeOf_lt_of_mem (mem_of_alookup hv)
      simp at this ⊢; omega
    | list l =>
      refine list l fun x hx => ih _ ?_ x rfl
      have := List.sizeOf_lt_of_mem hx
      simp; omega
    | _ => exact atom _ (fun _ h => V.noConfusion h) (fun _ h => V.noConfusion h)

theorem leKvs_iff (seen : List String) (a b : List (String × V)) :
    leKvs seen a b = true ↔
      ∀ k v, k ∉ seen → alookup k a = some v → ∃ w, alookup k b = some w ∧ V.le v w = true := by
  induction a generalizing seen with
  | nil => simp [leKvs, alookup]
  | cons p rest ih =>
    obtain ⟨k0, v0⟩ := p
    have entry : (match alookup k0 b with | some w => V.le v0 w | Option.none => false) = true ↔
        ∃ w, alookup k0 b = some w ∧ V.le v0 w = true := by cases alookup k0 b <;> simp
    simp only [leKvs, Bool.and_eq_true, Bool.or_eq_true, List.contains_iff_mem, ih]
    constructor
    · rintro ⟨h1, h2⟩ k v hk hl
      by_cases e : k0 = k
      · subst e
        obtain rfl : v0 = v := by simpa [alookup] using hl
        exact entry.1 (h1.resolve_left hk)
      · exact h2 k v (by simp [hk, Ne.symm e]) (by simpa [alookup, e] using hl)
    · intro h
      refine ⟨?_, fun k v hk hl => ?_⟩
      · by_cases hs : k0 ∈ seen
        · exact .inl hs
        · exact .inr (entry.2 (h k0 v0 hs (by simp [alookup])))
      · have hne : k0 ≠ k := fun e => hk (by simp [e])
        exact h k v (fun hs => hk (by simp [hs])) (by simp [alookup, hne, hl])

theorem le_dict_iff (a b : List (String × V)) :
    V.le (.dict a) (.dict b) = true ↔
      ∀ k v, alookup k a = some v → ∃ w, alookup k b = some w ∧ V.le v w = true := by
  rw [V.le, leKvs_iff]; simp

theorem le_dict_left {a : List (String × V)} {b : V} (h : V.le (.dict a) b = true) :
    ∃ b', b = .dict b' := by
  cases b <;> simp [V.le] at h
  exact ⟨_, rfl⟩

theorem le_list_left {a : List V} {b : V} (h : V.le (.list a) b = true) :
    ∃ b', b = .list b' ∧ leList a b' = true := by
  cases b <;> simp [V.le] at h
  exact ⟨_, rfl, h⟩

theorem le_atom_iff {a : V} (hd : ∀ d, a ≠ .dict d) (hl : ∀ l, a ≠ .list l) (b : V) :
    V.le a b = true ↔ a = b := by
  rw [V.le.eq_5 a b (fun d h => hd d h) (fun l h => hl l h), beq_iff_eq]

theorem leList_iff (a b : List V) :
    leList a b = true ↔ a.length = b.length ∧
      ∀ (i : Nat) x, a[i]? = some x → ∃ y, b[i]? = some y ∧ V.le x y = true := by
  induction a generalizing b with
  | nil => cases b <;> simp [leList]
  | cons x xs ih =>
    cases b with
    | nil => simp [leList]
    | cons y ys =>
      rw [leList, Bool.and_eq_true, ih]
      constructor
      · rintro ⟨h, hl, hi⟩
        refine ⟨congrArg (· + 1) hl, fun i => ?_⟩
        cases i with
        | zero => intro x' hx; cases hx; exact ⟨y, rfl, h⟩
        | succ i => exact hi i
      · rintro ⟨hl, hi⟩
        obtain ⟨_, e, h⟩ := hi 0 x rfl
        cases e
        exact ⟨h, Nat.succ.inj hl, fun i => hi (i + 1)⟩

theorem V.le_refl (a : V) : V.le a a = true := by
  induction a using V.le_induction with
  | dict d ih => exact (le_dict_iff d d).2 fun k v h => ⟨v, h, ih k v h⟩
  | list l ih =>
    rw [V.le, leList_iff]
    exact ⟨rfl, fun i x h => ⟨x, h, ih x (List.mem_of_getElem? h)⟩⟩
  | atom a hd hl => exact (le_atom_iff hd hl a).2 rfl

theorem V.le_trans (a b c : V) (h1 : V.le a b = true) (h2 : V.le b c = true) : V.le a c = true := by
  induction a using V.le_induction generalizing b c with
  | dict d ih =>
    obtain ⟨b', rfl⟩ := le_dict_left h1
    obtain ⟨c', rfl⟩ := le_dict_left h2
    rw [le_dict_iff] at h1 h2 ⊢
    intro k v hk
    obtain ⟨w, hw, hvw⟩ := h1 k v hk
    obtain ⟨x, hx, hwx⟩ := h2 k w hw
    exact ⟨x, hx, ih k v hk w x hvw hwx⟩
  | list l ih =>
    obtain ⟨b', rfl, -⟩ := le_list_left h1
    obtain ⟨c', rfl, -⟩ := le_list_left h2
    rw [V.le, leList_iff] at h1 h2 ⊢
    refine ⟨h1.1.trans h2.1, fun i x hx => ?_⟩
    obtain ⟨y, hy, hxy⟩ := h1.2 i x hx
    obtain ⟨z, hz, hyz⟩ := h2.2 i y hy
    exact ⟨z, hz, ih x (List.mem_of_getElem? hx) y z hxy hyz⟩
  | atom a hd hl => rwa [(le_atom_iff hd hl b).1 h1]

theorem entries_le_refl : ∀ (a : List (String × V)) (k : String) (v : V), (k, v) ∈ a → V.le v v = true :=
  fun _ _ v _ => V.le_refl v
theorem leList_refl : ∀ xs : List V, leList xs xs = true := fun xs => by
  have := V.le_refl (.list xs); rwa [V.le] at this
theorem entries_le_trans : ∀ (a : List (String × V)) (k : String) (v : V), (k, v) ∈ a →
    ∀ w x, V.le v w = true → V.le w x = true → V.le v x = true :=
  fun _ _ v _ => V.le_trans v
theorem leList_trans : ∀ (xs ys zs : List V), leList xs ys = true → leList ys zs = true →
    leList xs zs = true := fun xs ys zs h1 h2 => by
  have := V.le_trans (.list xs) (.list ys) (.list zs) (by rwa [V.le]) (by rwa [V.le])
  rwa [V.le] at this

theorem dictEqv_refl (a : V) : dictEqv a a = true := by simp [dictEqv, V.le_refl]
theorem dictEqv_symm {a b : V} (h : dictEqv a b = true) : dictEqv b a = true := by
  simp [dictEqv] at h ⊢; exact ⟨h.2, h.1⟩
theorem dictEqv_trans {a b c : V} (h1 : dictEqv a b = true) (h2 : dictEqv b c = true) :
    dictEqv a c = true := by
  simp [dictEqv] at h1 h2 ⊢
  exact ⟨V.le_trans _ _ _ h1.1 h2.1, V.le_trans _ _ _ h2.2 h1.2⟩

theorem le_dget {a b : V} (h : V.le a b = true) {p : Path} {v : V} (hv : dget p a = some v) :
    ∃ w, dget p b = some w ∧ V.le v w = true := by
  induction p generalizing a b with
  | nil => cases hv; exact ⟨b, rfl, h⟩
  | cons s p ih =>
    obtain ⟨d, y, rfl, hl, hy⟩ := dget_cons_some hv
    obtain ⟨d', rfl⟩ := le_dict_left h
    obtain ⟨w, hw, hle⟩ := (le_dict_iff d d').1 h s y hl
    obtain ⟨z, hz, hyz⟩ := ih hle hy
    exact ⟨z, by simp [dget_cons_dict, hw, hz], hyz⟩

/-- the second alternative defers the comparison of two sections to the paths below them -/
theorem le_of_dget {a b : List (String × V)}
    (h : ∀ p v, p ≠ [] → dget p (.dict a) = some v → ∃ w, dget p (.dict b) = some w ∧
      (V.le v w = true ∨ (∃ d, v = .dict d) ∧ ∃ d, w = .dict d)) :
    V.le (.dict a) (.dict b) = true := by
  suffices hs : ∀ (v : V) (pre : Path) (w : V), dget pre (.dict a) = some v →
      dget pre (.dict b) = some w → (∃ d, v = .dict d) → (∃ d, w = .dict d) → V.le v w = true from
    hs _ [] _ rfl rfl ⟨a, rfl⟩ ⟨b, rfl⟩
  intro v
  induction v using V.le_induction with
  | list l _ => rintro _ _ _ _ ⟨_, h⟩; cases h
  | atom a hd _ => rintro _ _ _ _ ⟨d, h⟩; exact absurd h (hd d)
  | dict d ih =>
    rintro pre _ h1 h2 - ⟨d₂, rfl⟩
    rw [le_dict_iff]
    intro s v' hs
    have hp1 : dget (pre ++ [s]) (.dict a) = some v' := by simp [dget_append, h1, hs]
    obtain ⟨w', hw', hor⟩ := h _ v' (by simp) hp1
    have hl : alookup s d₂ = some w' := by simpa [dget_append, h2] using hw'
    exact ⟨w', hl, hor.elim id fun hdd => ih s v' hs _ w' hp1 hw' hdd.1 hdd.2⟩

theorem IsRestrict.of_sortKeys {o : V} {K : List Path} {R : List (String × V)}
    (h : IsRestrict o (sortKeys K) R) : IsRestrict o K R :=
  ⟨fun k hk => h.lookup k (mem_sortKeys.2 hk), fun p v hp hv =>
    (h.exact p v hp hv).imp (fun ⟨k, hk, hpre⟩ => ⟨k, mem_sortKeys.1 hk, hpre⟩)
      fun ⟨k, hk, hpre⟩ => ⟨k, mem_sortKeys.1 hk, hpre⟩⟩

theorem IsRestrict.lookup_under {o : V} {K : List Path} {R : List (String × V)}
    (h : IsRestrict o K R) {k : Path} (hk : k ∈ K) (s : Path) :
    walk (k ++ s) (.dict R) = walk (k ++ s) o := by
  rw [walk_append, walk_append, h.lookup k hk]

theorem IsRestrict.lookup_covered {o : V} {K K' : List Path} {R : List (String × V)}
    (h : IsRestrict o K R) (hc : Covers K K') : ∀ k ∈ K', walk k (.dict R) = walk k o := by
  intro k hk
  obtain ⟨k', hk', t, rfl⟩ := hc k hk
  exact h.lookup_under hk' t

theorem Inv.le {o : V} {K : List Path} {R x : List (String × V)} (inv : Inv o K R)
    (hx : ∀ k ∈ K, ∃ v w, dget k o = some v ∧ dget k (.dict x) = some w ∧ V.le v w = true) :
    V.le (.dict R) (.dict x) = true := by
  refine le_of_dget fun p v hp hv => ?_
  rcases at_or_above (inv.exact p v hp hv) with ⟨k, hk, t, rfl⟩ | ⟨k, hk, t, ht, rfl⟩
  · -- at or under a key `R` holds what the options hold, and `x` something that includes it
    obtain ⟨vk, wk, e1, e2, hle⟩ := hx k hk
    rw [inv.lookup_under hk, dget_append, e1] at hv
    obtain ⟨w, hw, hvw⟩ := le_dget hle hv
    exact ⟨w, by rw [dget_append, e2]; exact hw, .inl hvw⟩
  · -- strictly above a key both hold a section, since both find something below
    obtain ⟨vk, wk, e1, e2, _⟩ := hx _ hk
    rw [← inv.lookup _ hk, dget_append, hv] at e1
    rw [dget_append] at e2
    obtain ⟨w, hw, e2⟩ := Option.bind_eq_some_iff.1 e2
    exact ⟨w, hw, .inr ⟨dict_of_dget_nonempty ht e1, dict_of_dget_nonempty ht e2⟩⟩

theorem IsRestrict.le {o : V} {K : List Path} {R x : List (String × V)} (hK : Present o K)
    (s : IsRestrict o K R) (hx : ∀ k ∈ K, LookLe (walk k o) (walk k (.dict x))) :
    V.le (.dict R) (.dict x) = true := by
  refine ((isRestrict_iff_inv hK).1 s).le fun k hk => ?_
  obtain ⟨_, hn, v, hv⟩ := hK k hk
  obtain ⟨w, hw, hle⟩ := hx k hk v hv
  exact ⟨v, w, (walk_found_iff_dget hn o v).1 hv, (walk_found_iff_dget hn _ w).1 hw, hle⟩

theorem le_restricted_iff {o : V} {K : List Path} {R x : List (String × V)} (hK : Present o K)
    (hspec : IsRestrict o K R) :
    V.le (.dict R) (.dict x) = true ↔ ∀ k ∈ K, LookLe (walk k o) (walk k (.dict x)) := by
  refine ⟨fun h k hk v hv => ?_, hspec.le hK⟩
  obtain ⟨_, hn, _⟩ := hK k hk
  obtain ⟨w, hw, hle⟩ :=
    le_dget h ((walk_found_iff_dget hn _ v).1 ((hspec.lookup k hk).trans hv))
  exact ⟨w, (walk_found_iff_dget hn _ w).2 hw, hle⟩

theorem LookLe.refl (a : Lk V) : LookLe a a := fun v h => ⟨v, h, V.le_refl v⟩

theorem restrict_unique {o : V} {K : List Path} {R₁ R₂ : List (String × V)} (hK : Present o K)
    (s₁ : IsRestrict o K R₁) (s₂ : IsRestrict o K R₂) :
    dictEqv (.dict R₁) (.dict R₂) = true := by
  rw [dictEqv, s₁.le hK fun k hk => s₂.lookup k hk ▸ LookLe.refl _,
    s₂.le hK fun k hk => s₁.lookup k hk ▸ LookLe.refl _]
  rfl

theorem instantiate_ok {c : DsClass} {o : V} {i : Inst} (h : instantiate c o = .ok i) :
    ∃ attrs K R, evalMembers o c.members = .ok attrs ∧ classKeys c o = .ok K ∧
      reprOptions o (sortKeys K) [] = .ok R ∧ i = ⟨c.name, attrs, R⟩ := by
  unfold instantiate at h
  split at h
  · cases h
  · split at h
    · cases h
    · split at h
      · cases h
      · cases h
        exact ⟨_, _, _, ‹_›, ‹_›, ‹_›, rfl⟩

theorem instEq_of_instantiate {c : DsClass} {o₁ o₂ : V} {i₁ i₂ : Inst}
    (h₁ : instantiate c o₁ = .ok i₁) (h₂ : instantiate c o₂ = .ok i₂) :
    instEq i₁ i₂ = dictEqv (.dict i₁.reprOpts) (.dict i₂.reprOpts) := by
  obtain ⟨_, _, _, _, _, _, rfl⟩ := instantiate_ok h₁
  obtain ⟨_, _, _, _, _, _, rfl⟩ := instantiate_ok h₂
  simp [instEq]

theorem evalMembers_cons_ok {o : V} {m : String × Member} {ms : List (String × Member)}
    {as : List (String × Attr)} : evalMembers o (m :: ms) = .ok as ↔
      ∃ a as', evalMember o m = .ok a ∧ evalMembers o ms = .ok as' ∧ as = a :: as' := by
  rw [evalMembers]
  cases evalMember o m with
  | error x => simp
  | ok a => cases evalMembers o ms <;> simp [eq_comm]

theorem collect_cons_ok {f : Evaluatable → Except Err (List Path)} {e : Evaluatable}
    {es : List Evaluatable} {K : List Path} : collect f (e :: es) = .ok K ↔
      ∃ a b, f e = .ok a ∧ collect f es = .ok b ∧ K = a ++ b := by
  rw [collect]
  cases f e with
  | error x => simp
  | ok a => cases collect f es <;> simp [eq_comm]

theorem evalMember_ok {o : V} {m : String × Member} {a : String × Attr}
    (h : evalMember o m = .ok a) : AttrOK o m a := by
  obtain ⟨n, mem⟩ := m
  cases mem with
  | const v => cases h; simp [AttrOK]
  | ev e =>
    simp only [evalMember] at h
    split at h
    · cases h; simp [AttrOK, *]
    · split at h
      · cases h; simp [AttrOK, *]
      · cases h

theorem evalMembers_ok {o : V} {ms : List (String × Member)} {as : List (String × Attr)}
    (h : evalMembers o ms = .ok as) : AllPairs (AttrOK o) ms as := by
  induction ms generalizing as with
  | nil => cases h; exact .nil
  | cons m ms ih =>
    obtain ⟨a, as', h1, h2, rfl⟩ := evalMembers_cons_ok.1 h
    exact .cons (evalMember_ok h1) (ih h2)

theorem evalMembers_first_failure {o : V} {pre post : List (String × Member)} {n : String}
    {e : Evaluatable} {x : Err} (hpre : ∀ m ∈ pre, ∃ a, evalMember o m = .ok a)
    (hn : hidden n = false) (he : e.evaluate o = .error x) :
    evalMembers o (pre ++ (n, .ev e) :: post) = .error x := by
  induction pre with
  | nil => simp [evalMembers, evalMember, hn, he]
  | cons m pre ih =>
    obtain ⟨a, ha⟩ := hpre m (by simp)
    have := ih (fun m' hm' => hpre m' (by simp [hm']))
    simp [evalMembers, ha, this]

theorem mem_evs {e : Evaluatable} {ms : List (String × Member)} :
    e ∈ evs ms ↔ ∃ n, (n, Member.ev e) ∈ ms ∧ hidden n = false := by
  induction ms with
  | nil => simp [evs]
  | cons m ms ih =>
    -- `or_and_right, exists_or, and_assoc` split the right side into head and tail of the list
    obtain ⟨n, _ | e'⟩ := m
    · simp [evs, ih]
    · by_cases hh : hidden n = true <;>
        simp [evs, hh, ih, or_and_right, exists_or, and_assoc]

theorem collect_ok_iff (f : Evaluatable → Except Err (List Path)) (es : List Evaluatable) :
    (∃ K, collect f es = .ok K) ↔ ∀ e ∈ es, ∃ Ke, f e = .ok Ke := by
  induction es with
  | nil => simp [collect]
  | cons e es ih =>
    simp only [collect_cons_ok, List.forall_mem_cons, ← ih]
    exact ⟨fun ⟨_, a, b, h1, h2, _⟩ => ⟨⟨a, h1⟩, b, h2⟩, fun ⟨⟨a, h1⟩, b, h2⟩ => ⟨_, a, b, h1, h2, rfl⟩⟩

theorem collect_mem {f : Evaluatable → Except Err (List Path)} {es : List Evaluatable}
    {K : List Path} (h : collect f es = .ok K) (k : Path) :
    k ∈ K ↔ ∃ e ∈ es, ∃ Ke, f e = .ok Ke ∧ k ∈ Ke := by
  induction es generalizing K with
  | nil => cases h; simp
  | cons e es ih =>
    obtain ⟨a, b, h1, h2, rfl⟩ := collect_cons_ok.1 h
    simp [ih h2, h1]

theorem collect_first_failure {f : Evaluatable → Except Err (List Path)}
    {pre post : List Evaluatable} {e : Evaluatable} {x : Err}
    (hpre : ∀ e' ∈ pre, ∃ Ke, f e' = .ok Ke) (he : f e = .error x) :
    collect f (pre ++ e :: post) = .error x := by
  induction pre with
  | nil => simp [collect, he]
  | cons e' pre ih =>
    obtain ⟨a, ha⟩ := hpre e' (by simp)
    have := ih (fun e'' h => hpre e'' (by simp [h]))
    simp [collect, ha, this]

theorem validateAll_ok_iff (o : V) (es : List Evaluatable) :
    validateAll o es = .ok () ↔ ∀ e ∈ es, e.validate o = .ok () := by
  induction es with
  | nil => simp [validateAll]
  | cons e es ih =>
    rw [validateAll, List.forall_mem_cons, ← ih]
    cases e.validate o <;> simp

theorem validateAll_first_failure {o : V} {pre post : List Evaluatable} {e : Evaluatable} {x : Err}
    (hpre : ∀ e' ∈ pre, e'.validate o = .ok ()) (he : e.validate o = .error x) :
    validateAll o (pre ++ e :: post) = .error x := by
  induction pre with
  | nil => simp [validateAll, he]
  | cons e' pre ih =>
    have := ih (fun e'' h => hpre e'' (by simp [h]))
    simp [validateAll, hpre e' (by simp), this]

theorem OptSpec.keys_present {s : OptSpec} {o : V} {Ke : List Path} (h : s.keys o = .ok Ke)
    {k : Path} (hk : k ∈ Ke) : k = s.key ∧ ∃ v, walk k o = .found v := by
  unfold OptSpec.keys at h
  split at h
  · cases h
    cases List.mem_singleton.1 hk
    exact ⟨rfl, _, ‹_›⟩
  · split at h
    · cases h; cases hk
    · cases h
  · cases h

theorem dsCollect_keys (o : V) (args : List OptSpec) :
    dsCollect (·.keys o) args = collect (·.keys o) (args.map OptSpec.toEv) := by
  induction args with
  | nil => rfl
  | cons a as ih => simp [dsCollect, collect, ih, OptSpec.toEv]

theorem MemberSpec.keys_present {m : MemberSpec} (hm : m.KeysOK) {e : Evaluatable}
    (he : m.toMember = .ev e) {o : V} {Ke : List Path} (h : e.keys o = .ok Ke) : Present o Ke := by
  intro k hk
  cases m with
  | const v => cases he
  | opt s =>
    cases he
    obtain ⟨rfl, hv⟩ := OptSpec.keys_present h hk
    exact ⟨hm.1, hm.2, hv⟩
  | ds args =>
    cases he
    obtain ⟨_, he', Ka, hKa, hka⟩ := (collect_mem ((dsCollect_keys o args).symm.trans h) k).1 hk
    obtain ⟨a, ha, rfl⟩ := List.mem_map.1 he'
    obtain ⟨rfl, hv⟩ := OptSpec.keys_present hKa hka
    exact ⟨(hm a ha).1, (hm a ha).2, hv⟩

theorem concrete_present {name : String} {ms : List (String × MemberSpec)} {o : V} {K : List Path}
    (hms : ∀ m ∈ ms, m.2.KeysOK) (h : classKeys (concreteClass name ms) o = .ok K) :
    Present o K := by
  intro k hk
  obtain ⟨e, he, Ke, hKe, hkKe⟩ := (collect_mem h k).1 hk
  obtain ⟨n, hmem, _⟩ := mem_evs.1 he
  obtain ⟨m, hm, heq⟩ := List.mem_map.1 hmem
  exact MemberSpec.keys_present (hms m hm) (congrArg Prod.snd heq) hKe k hkKe

/-- members on `A` and on `A.X` (prefix overlap), a defaulted `B.Y`, a constant, a dataset -/
def cOverlap : DsClass := concreteClass "C"
  [("a", .opt ⟨["A"], Option.none⟩), ("ax", .opt ⟨["A", "X"], Option.none⟩),
   ("b", .opt ⟨["B", "Y"], some (.int 3)⟩), ("c", .const (.int 9)),
   ("d", .ds [⟨["S", "T", "U"], some (.int 5)⟩])]
/-- `A` and a defaulted `A.X`: the reported keys depend on the options -/
def cPre : DsClass := concreteClass "C"
  [("a", .opt ⟨["A"], Option.none⟩), ("ax", .opt ⟨["A", "X"], some (.int 7)⟩)]
/-- one member on the nested key `A.X` -/
def cAX : DsClass := concreteClass "C" [("x", .opt ⟨["A", "X"], Option.none⟩)]

def oXY : V := .dict [("A", .dict [("X", .int 2), ("Y", .int 3)]), ("Z", .int 5)]
/-- `oXY` with another key order and another irrelevant `Z` -/
def oYX : V := .dict [("Z", .int 7), ("A", .dict [("Y", .int 3), ("X", .int 2)])]
/-- `oXY` with another `A.X` -/
def oX9 : V := .dict [("A", .dict [("X", .int 9), ("Y", .int 3)]), ("Z", .int 5)]

theorem cOverlap_keysOK : ∀ m ∈ [("a", MemberSpec.opt ⟨["A"], Option.none⟩),
    ("ax", .opt ⟨["A", "X"], Option.none⟩), ("b", .opt ⟨["B", "Y"], some (.int 3)⟩),
    ("c", .const (.int 9)), ("d", .ds [⟨["S", "T", "U"], some (.int 5)⟩])], m.2.KeysOK := by
  intro m hm
  simp at hm
  rcases hm with rfl | rfl | rfl | rfl | rfl
  · exact ⟨by decide, by decide⟩
  · exact ⟨by decide, by decide⟩
  · exact ⟨by decide, by decide⟩
  · trivial
  · intro a ha; simp at ha; subst ha; exact ⟨by decide, by decide⟩

theorem cOverlap_present_oXY : Present oXY [["A"], ["A", "X"]] :=
  concrete_present (name := "C") cOverlap_keysOK rfl
theorem cOverlap_present_oYX : Present oYX [["A"], ["A", "X"]] :=
  concrete_present (name := "C") cOverlap_keysOK rfl

end Labrea.DatasetClass
