/-
  Cache transparency reduced to fingerprint soundness.

  `Cached.evaluate`, with caching switched on, for a node `x` whose
    * fingerprint under a dictionary `o` of the history is `fp o` (its `keys()` succeed),
    * uncached outcome under `o` is `den o` (a value or a failure), whatever the state,
    * sub-computations (the switch lookup, `keys()`, the inner evaluation) leave the entries of cache `c` alone,
  returns `den o` after ANY history of such evaluations — provided equal fingerprints imply equal outcomes
  (`sufficient`).  That hypothesis is exactly what the known findings F18 / F19 / F22 violate; everything else the
  full statement of C01 needs is proved here for all histories by an invariant on the store, for EVERY kind of backend
  (none, memory, scripted/unreliable: `t_cached_evaluate`).  For the memory backend the evaluation is moreover described
  completely (`cached_memory_spec`).
-/
import LabreaModel.CacheLemmas
namespace Labrea

/-- what the reduction assumes about the node, for the dictionaries `D` of the history -/
structure FingerprintSound (env : Env) (run : Run) (x : Expr) (c : Nat) (D : V → Prop)
    (fp : V → V) (den : V → Except Err V) : Prop where
  memory : env.cacheKind c = .memory
  /-- caching is on for these dictionaries; consulting the switch does not touch the store -/
  enabled : ∀ o, D o → ∀ s, ∃ s', cacheDisabled env run o s = some (.ok false, s') ∧ s'.E c = s.E c
  /-- `keys()` succeeds and yields the fingerprint `fp o`, from any state, without touching the store -/
  fingerprint : ∀ o, D o → ∀ s, ∃ s', fingerprintOf run x o s = some (.ok (fp o), s') ∧ s'.E c = s.E c
  /-- the inner evaluation has a state-independent outcome and does not touch the entries of this cache -/
  inner : ∀ o, D o → ∀ s, ∃ s', run .evaluate x o s = some (den o, s') ∧ s'.E c = s.E c
  /-- **fingerprint soundness**: dictionaries with equal fingerprints have equal outcomes -/
  sufficient : ∀ o o', D o → D o' → fp o = fp o' → den o = den o'

/-- the store invariant: every entry is the outcome of some dictionary with that fingerprint -/
def StoreInv (c : Nat) (D : V → Prop) (fp : V → V) (den : V → Except Err V) (s : St) : Prop :=
  ∀ f v, entryLookup f (s.E c) = some v → ∃ o', D o' ∧ fp o' = f ∧ den o' = .ok v

/-- `FingerprintSound` (memory backend) and `FingerprintSoundF` (scripted backend) without the kind of backend:
    transparency needs no more, it holds for every kind -/
structure FpHyp (env : Env) (run : Run) (x : Expr) (c : Nat) (D : V → Prop)
    (fp : V → V) (den : V → Except Err V) : Prop where
  enabled : ∀ o, D o → ∀ s, ∃ s', cacheDisabled env run o s = some (.ok false, s') ∧ s'.E c = s.E c
  fingerprint : ∀ o, D o → ∀ s, ∃ s', fingerprintOf run x o s = some (.ok (fp o), s') ∧ s'.E c = s.E c
  inner : ∀ o, D o → ∀ s, ∃ s', run .evaluate x o s = some (den o, s') ∧ s'.E c = s.E c
  sufficient : ∀ o o', D o → D o' → fp o = fp o' → den o = den o'

variable {env : Env} {run : Run} {x : Expr} {c : Nat} {D : V → Prop} {fp : V → V} {den : V → Except Err V}

theorem FingerprintSound.hyp (H : FingerprintSound env run x c D fp den) : FpHyp env run x c D fp den :=
  ⟨H.enabled, H.fingerprint, H.inner, H.sufficient⟩

theorem FpHyp.memory (H : FpHyp env run x c D fp den) (hk : env.cacheKind c = .memory) :
    FingerprintSound env run x c D fp den :=
  ⟨hk, H.enabled, H.fingerprint, H.inner, H.sufficient⟩

theorem FingerprintSound.mono {D' : V → Prop} (H : FingerprintSound env run x c D fp den) (h : ∀ o, D' o → D o) :
    FingerprintSound env run x c D' fp den :=
  ⟨H.memory, fun o ho => H.enabled o (h o ho), fun o ho => H.fingerprint o (h o ho), fun o ho => H.inner o (h o ho),
    fun o o' ho ho' => H.sufficient o o' (h o ho) (h o' ho')⟩

section
variable {s s' : St}

theorem storeInv_empty (c : Nat) (D : V → Prop) (fp : V → V) (den : V → Except Err V) (s : St)
    (h : s.cacheEntries c = []) : StoreInv c D fp den s := by
  intro f v hv
  simp [St.E, h, entryLookup] at hv

theorem StoreInv.of_E (hs : StoreInv c D fp den s) (h : s'.E c = s.E c) : StoreInv c D fp den s' :=
  fun f v hv => hs f v (h ▸ hv)

theorem StoreInv.erase (hs : StoreInv c D fp den s) {f : V} (h : s'.E c = entryErase f (s.E c)) :
    StoreInv c D fp den s' :=
  fun g v hv => hs g v (entryLookup_erase (h ▸ hv)).2

theorem StoreInv.insert (hs : StoreInv c D fp den s) {o v : V} (ho : D o) (hv : den o = .ok v)
    (h : s'.E c = entryInsert (fp o) v (s.E c)) : StoreInv c D fp den s' := by
  intro f w hw
  rw [h] at hw
  by_cases hf : f = fp o
  · subst hf
    rw [entryLookup_insert_same] at hw
    cases hw
    exact ⟨o, ho, rfl, hv⟩
  · rw [entryLookup_insert_other hf] at hw
    exact hs f w hw

theorem StoreInv.lookup (hs : StoreInv c D fp den s) (hsuf : ∀ o o', D o → D o' → fp o = fp o' → den o = den o')
    {o v : V} (ho : D o) (hl : entryLookup (fp o) (s.E c) = some v) : den o = .ok v := by
  obtain ⟨o', ho', hfp, hden⟩ := hs _ _ hl
  rw [hsuf o o' ho ho' hfp.symm, hden]

end

structure T (I : St → Prop) {α} (m : M α) (Q : Except Err α → Prop) : Prop where
  run : ∀ s, I s → ∃ r s', m s = some (r, s') ∧ I s' ∧ Q r

def okP {α} (P : α → Prop) : Except Err α → Prop
  | .ok a => P a
  | .error _ => False

def orMiss {α} (P : α → Prop) : Except Err α → Prop
  | .ok a => P a
  | .error e => e = cacheGetFailure

abbrev succeeds {α} : Except Err α → Prop := okP fun _ => True

section
variable {I : St → Prop} {α β : Type}

theorem t_pure (a : α) {Q : Except Err α → Prop} (h : Q (.ok a)) : T I (pure a : M α) Q :=
  ⟨fun s hs => ⟨_, s, rfl, hs, h⟩⟩

theorem t_raise (e : Err) {Q : Except Err α → Prop} (h : Q (.error e)) : T I (raise e : M α) Q :=
  ⟨fun s hs => ⟨_, s, rfl, hs, h⟩⟩

theorem t_weaken {m : M α} {Q Q' : Except Err α → Prop} (h : ∀ r, Q r → Q' r) (t : T I m Q) : T I m Q' :=
  ⟨fun s hs => let ⟨r, s', h1, h2, h3⟩ := t.run s hs; ⟨r, s', h1, h2, h r h3⟩⟩

theorem t_bind {m : M α} {f : α → M β} {Q1 : Except Err α → Prop} {Q : Except Err β → Prop}
    (hm : T I m Q1) (hf : ∀ a, Q1 (.ok a) → T I (f a) Q) (he : ∀ e, Q1 (.error e) → Q (.error e)) : T I (m >>= f) Q := by
  refine ⟨fun s hs => ?_⟩
  obtain ⟨r, s1, h1, i1, q1⟩ := hm.run s hs
  cases r with
  | error e => exact ⟨.error e, s1, bind_of_err h1, i1, he e q1⟩
  | ok a =>
    obtain ⟨r2, s2, h2, i2, q2⟩ := (hf a q1).run s1 i1
    exact ⟨r2, s2, (bind_of_ok h1).trans h2, i2, q2⟩

theorem t_bind_val {m : M α} {f : α → M β} {a : α} {Q : Except Err β → Prop}
    (hm : T I m (· = .ok a)) (hf : T I (f a) Q) : T I (m >>= f) Q :=
  t_bind hm (fun _ h => Except.ok.inj h ▸ hf) (fun _ h => nomatch h)

theorem t_bind_ok {m : M α} {f : α → M β} {P : α → Prop} {Q : Except Err β → Prop}
    (hm : T I m (okP P)) (hf : ∀ a, P a → T I (f a) Q) : T I (m >>= f) Q :=
  t_bind hm hf (fun _ h => h.elim)

theorem t_handle {m : M α} {k : Err → M α} {Q1 Q : Except Err α → Prop}
    (hm : T I m Q1) (hok : ∀ a, Q1 (.ok a) → Q (.ok a)) (hk : ∀ e, Q1 (.error e) → T I (k e) Q) : T I (handle m k) Q := by
  refine ⟨fun s hs => ?_⟩
  obtain ⟨r, s1, h1, i1, q1⟩ := hm.run s hs
  cases r with
  | ok a => exact ⟨.ok a, s1, handle_of_ok h1, i1, hok a q1⟩
  | error e =>
    obtain ⟨r2, s2, h2, i2, q2⟩ := (hk e q1).run s1 i1
    exact ⟨r2, s2, (handle_of_err h1).trans h2, i2, q2⟩

/-- `try m except CacheGetFailure: d`, the one handler of `labrea.cache` (the read-back of `setReq`, the retrieval of
    `cacheLookup`) -/
theorem t_handle_miss {m : M α} {d : α} {P : α → Prop} (hm : T I m (orMiss P)) (hd : P d) :
    T I (handle m fun err => if err = cacheGetFailure then pure d else raise err) (okP P) :=
  t_handle hm (fun _ h => h) fun e he => by
    subst he
    simp only [if_true]
    exact t_pure d hd

end

theorem t_frame {α} {m : M α} {Q : Except Err α → Prop}
    (h : ∀ s, ∃ r s', m s = some (r, s') ∧ s'.E c = s.E c ∧ Q r) : T (StoreInv c D fp den) m Q :=
  ⟨fun s hs => let ⟨r, s', h1, h2, h3⟩ := h s; ⟨r, s', h1, hs.of_E h2, h3⟩⟩

theorem t_of_E {α} {m : M α} {r : Except Err α} (h : ∀ s, ∃ s', m s = some (r, s') ∧ s'.E c = s.E c) :
    T (StoreInv c D fp den) m (· = r) :=
  t_frame fun s => let ⟨s', h1, h2⟩ := h s; ⟨r, s', h1, h2, rfl⟩

theorem t_emit (e : Event) : T (StoreInv c D fp den) (emit e) (· = .ok ()) :=
  t_of_E fun _ => ⟨_, rfl, rfl⟩

theorem t_nextFault : T (StoreInv c D fp den) (nextFault c) succeeds :=
  t_frame fun s => let ⟨_, s', h1, h2⟩ := nextFault_spec c s; ⟨_, s', h1, E_of_caches h2 c, trivial⟩

theorem t_blindFault : T (StoreInv c D fp den) (blindFault c) succeeds :=
  t_frame fun s => let ⟨_, s', h1, h2⟩ := blindFault_spec c s; ⟨_, s', h1, E_of_caches h2 c, trivial⟩

theorem t_forget (f : V) : T (StoreInv c D fp den) (forgetEntry c f) (· = .ok ()) :=
  ⟨fun s hs => let ⟨s', h1, h2⟩ := forgetEntry_spec c f s; ⟨_, s', h1, hs.erase h2, rfl⟩⟩

theorem t_store {o v : V} (ho : D o) (hv : den o = .ok v) :
    T (StoreInv c D fp den) (storeEntry c (fp o) v) (· = .ok ()) :=
  ⟨fun s hs => let ⟨s', h1, h2⟩ := storeEntry_spec c (fp o) v s; ⟨_, s', h1, hs.insert ho hv h2, rfl⟩⟩

/-! Each proof follows the code of the operation it is about (LabreaModel/Eval.lean, "Cached"), one rule per line of
  code.  The memory backend is the scripted one without faults: after the fingerprint both end in the same lookup. -/

section
variable (H : FpHyp env run x c D fp den) (o : V) (ho : D o)
include H ho

theorem t_fingerprint : T (StoreInv c D fp den) (fingerprintOf run x o) (· = .ok (fp o)) := t_of_E (H.fingerprint o ho)

theorem t_lookupStore (what : String) :
    T (StoreInv c D fp den) (lookupStore c (fp o) what) (okP fun res => ∀ v, res = some v → den o = .ok v) :=
  ⟨fun s hs => let ⟨s', h1, h2⟩ := lookupStore_spec c (fp o) what s
    ⟨_, s', h1, hs.of_E h2, fun _ hv => hs.lookup H.sufficient ho hv⟩⟩

theorem t_backendExists : T (StoreInv c D fp den) (backendExists env run x c o) succeeds := by
  have look : T (StoreInv c D fp den) (do let r ← lookupStore c (fp o) "exists"; pure r.isSome) succeeds :=
    t_bind_ok (t_lookupStore H o ho "exists") fun _ _ => t_pure _ trivial
  cases hk : env.cacheKind c <;> simp only [backendExists, hk]
  case nocache => exact t_pure _ trivial
  case memory => exact t_bind_val (t_fingerprint H o ho) look
  case scripted =>
    refine t_bind_ok t_blindFault fun blind _ => ?_
    cases blind
    case true => exact t_bind_val (t_emit _) (t_pure _ trivial)
    refine t_bind_val (t_fingerprint H o ho) (t_bind_ok t_nextFault fun flt _ => ?_)
    cases flt
    case miss | lieExists => exact t_bind_val (t_emit _) (t_pure _ trivial)
    case forget => exact t_bind_val (t_forget _) (t_bind_val (t_emit _) (t_pure _ trivial))
    case behave | failGet | lieBlind => exact look

theorem t_backendGet : T (StoreInv c D fp den) (backendGet env run x c o) (orMiss (den o = .ok ·)) := by
  have fail : ∀ {e : Event}, T (StoreInv c D fp den) (do emit e; raise cacheGetFailure : M V) (orMiss (den o = .ok ·)) :=
    t_bind_val (t_emit _) (t_raise _ rfl)
  have look : T (StoreInv c D fp den) (do match ← lookupStore c (fp o) "get" with
        | some v => pure v
        | Option.none => raise cacheGetFailure) (orMiss (den o = .ok ·)) := by
    refine t_bind_ok (t_lookupStore H o ho "get") fun res hres => ?_
    cases res with
    | none => exact t_raise _ rfl
    | some v => exact t_pure _ (hres v rfl)
  cases hk : env.cacheKind c <;> simp only [backendGet, hk]
  case nocache => exact t_raise _ rfl
  case memory => exact t_bind_val (t_fingerprint H o ho) look
  case scripted =>
    refine t_bind_ok t_blindFault fun blind _ => ?_
    cases blind
    case true => exact fail
    refine t_bind_val (t_fingerprint H o ho) (t_bind_ok t_nextFault fun flt _ => ?_)
    cases flt
    case miss | failGet => exact fail
    case forget => exact t_bind_val (t_forget _) fail
    case behave | lieExists | lieBlind => exact look

theorem t_backendSet (v : V) (hv : den o = .ok v) : T (StoreInv c D fp den) (backendSet env run x c o v) (· = .ok ()) := by
  cases hk : env.cacheKind c <;> simp only [backendSet, hk]
  case nocache => exact t_pure _ rfl
  case memory => exact t_bind_val (t_fingerprint H o ho) (t_store ho hv)
  case scripted =>
    refine t_bind_val (t_fingerprint H o ho) (t_bind_ok t_nextFault fun flt _ => ?_)
    cases flt
    case miss | forget => exact t_emit _
    case behave | lieExists | failGet | lieBlind => exact t_store ho hv

/-- the common head of `existsReq`, `getReq` and `setReq`, with the switch off -/
theorem t_request {α} (name : String) {yes no : M α} {Q : Except Err α → Prop} (h : T (StoreInv c D fp den) no Q) :
    T (StoreInv c D fp den) (do emit (.req name x.id); if ← cacheDisabled env run o then yes else no) Q :=
  t_bind_val (t_emit _) (t_bind_val (t_of_E (H.enabled o ho)) h)

/-- what is read back is `o`'s outcome, and so is the value returned when the read-back fails -/
theorem t_setReq (v : V) (hv : den o = .ok v) : T (StoreInv c D fp den) (setReq env run x c o v) (okP (den o = .ok ·)) :=
  t_request H o ho _ (t_bind_val (t_backendSet H o ho v hv) (t_handle_miss (t_backendGet H o ho) hv))

theorem t_cacheLookup :
    T (StoreInv c D fp den) (cacheLookup env run x c o) (okP fun hit => ∀ v, hit = some v → den o = .ok v) := by
  unfold cacheLookup
  refine t_bind_ok (t_request H o ho _ (t_backendExists H o ho)) fun found _ => ?_
  cases found
  case false => exact t_pure _ nofun
  refine t_handle_miss (t_bind (t_request H o ho _ (t_backendGet H o ho)) (fun v hv => ?_) fun _ h => h) nofun
  exact t_pure _ fun _ h => Option.some.inj h ▸ hv

theorem t_cached_evaluate : T (StoreInv c D fp den) (cachedOp env run x c .evaluate o) (· = den o) := by
  have okDen : ∀ r, okP (den o = .ok ·) r → r = den o := fun
    | .ok _, h => h.symm
    | .error _, h => h.elim
  simp only [cachedOp]
  refine t_bind_ok (t_cacheLookup H o ho) fun hit hh => ?_
  cases hit with
  | some v => exact t_pure _ (hh v rfl).symm
  | none => exact t_bind (t_of_E (H.inner o ho)) (fun v hv => t_weaken okDen (t_setReq H o ho v hv.symm)) fun _ h => h

end

theorem foldl_bind_none {σ ι : Type} (step : ι → σ → Option σ) :
    ∀ l : List ι, l.foldl (fun st i => st.bind (step i)) Option.none = Option.none
  | [] => rfl
  | _ :: l => foldl_bind_none step l

theorem foldl_bind_inv {σ ι : Type} {step : ι → σ → Option σ} {I : σ → Prop} :
    ∀ (l : List ι), (∀ i ∈ l, ∀ s s', I s → step i s = some s' → I s') → ∀ s, I s → ∀ s1,
      l.foldl (fun st i => st.bind (step i)) (some s) = some s1 → I s1
  | [], _, s, hs, s1, h => by cases h; exact hs
  | i :: l, hstep, s, hs, s1, h => by
    simp only [List.foldl_cons, Option.bind_some] at h
    cases hi : step i s with
    | none => rw [hi, foldl_bind_none] at h; cases h
    | some s' =>
      rw [hi] at h
      exact foldl_bind_inv l (fun j hj => hstep j (by simp [hj])) s' (hstep i (by simp) s s' hs hi) s1 h

theorem cached_evaluate_total (H : FpHyp env run x c D fp den) (o : V) (ho : D o) (s : St) (hinv : StoreInv c D fp den s) :
    ∃ s', cachedOp env run x c .evaluate o s = some (den o, s') ∧ StoreInv c D fp den s' :=
  let ⟨_, s', h1, h2, h3⟩ := (t_cached_evaluate H o ho).run s hinv
  ⟨s', h3 ▸ h1, h2⟩

theorem history_transparent (H : FpHyp env run x c D fp den) (hist : List V) (hD : ∀ o ∈ hist, D o) (s : St)
    (hinv : StoreInv c D fp den s) (o : V) (ho : D o) (s1 : St)
    (hs : (hist.foldl (fun (st : Option St) oi => st.bind fun t =>
        (cachedOp env run x c .evaluate oi t).map Prod.snd) (some s)) = some s1)
    (r : Except Err V) (s2 : St) (h : cachedOp env run x c .evaluate o s1 = some (r, s2)) : r = den o := by
  have hinv1 : StoreInv c D fp den s1 := by
    refine foldl_bind_inv (step := fun oi t => (cachedOp env run x c .evaluate oi t).map Prod.snd) hist ?_ s hinv s1 hs
    intro oi hoi t t' ht hstep
    obtain ⟨_, h1, hi⟩ := cached_evaluate_total H oi (hD oi hoi) t ht
    rw [h1] at hstep
    cases hstep
    exact hi
  obtain ⟨_, h1, _⟩ := cached_evaluate_total H o ho s1 hinv1
  cases h.symm.trans h1
  rfl

section
variable (H : FingerprintSound env run x c D fp den)
include H

theorem cached_history_transparent (hist : List V) (hD : ∀ o ∈ hist, D o) (s : St) (hinv : StoreInv c D fp den s)
    (o : V) (ho : D o) (s1 : St)
    (hs : (hist.foldl (fun (st : Option St) oi => st.bind fun t =>
        (cachedOp env run x c .evaluate oi t).map Prod.snd) (some s)) = some s1)
    (r : Except Err V) (s2 : St) (h : cachedOp env run x c .evaluate o s1 = some (r, s2)) : r = den o :=
  history_transparent H.hyp hist hD s hinv o ho s1 hs r s2 h

theorem fs_exists (o : V) (ho : D o) (s : St) :
    ∃ s', existsReq env run x c o s = some (.ok (entryLookup (fp o) (s.E c)).isSome, s') ∧ s'.E c = s.E c := by
  obtain ⟨s1, h1, (e1 : s1.E c = s.E c)⟩ := H.enabled o ho { s with events := Event.req "cache_exists" x.id :: s.events }
  obtain ⟨s2, h2, e2⟩ := H.fingerprint o ho s1
  obtain ⟨s3, h3, e3⟩ := lookupStore_spec c (fp o) "exists" s2
  rw [e2, e1] at h3
  exact ⟨s3, by simp only [existsReq, bind_run, emit_run, h1, Bool.false_eq_true, if_false, backendExists, H.memory, h2, h3, pure_run],
    by rw [e3, e2, e1]⟩

theorem fs_get (o : V) (ho : D o) (s : St) :
    ∃ s', getReq env run x c o s = some ((match entryLookup (fp o) (s.E c) with
        | some v => Except.ok v
        | Option.none => Except.error cacheGetFailure), s') ∧ s'.E c = s.E c := by
  obtain ⟨s1, h1, (e1 : s1.E c = s.E c)⟩ := H.enabled o ho { s with events := Event.req "cache_get" x.id :: s.events }
  obtain ⟨s2, h2, e2⟩ := H.fingerprint o ho s1
  obtain ⟨s3, h3, e3⟩ := lookupStore_spec c (fp o) "get" s2
  rw [e2, e1] at h3
  refine ⟨s3, ?_, by rw [e3, e2, e1]⟩
  simp only [getReq, bind_run, emit_run, h1, Bool.false_eq_true, if_false, backendGet, H.memory, h2, h3]
  cases entryLookup (fp o) (s.E c) <;> rfl

theorem fs_set (o : V) (ho : D o) (v : V) (s : St) :
    ∃ s', setReq env run x c o v s = some (.ok v, s') ∧ s'.E c = entryInsert (fp o) v (s.E c) := by
  obtain ⟨s1, h1, (e1 : s1.E c = s.E c)⟩ := H.enabled o ho { s with events := Event.req "cache_set" x.id :: s.events }
  obtain ⟨s2, h2, e2⟩ := H.fingerprint o ho s1
  obtain ⟨s3, h3, e3⟩ := storeEntry_spec c (fp o) v s2
  -- the read-back
  obtain ⟨s4, h4, e4⟩ := H.fingerprint o ho s3
  obtain ⟨s5, h5, e5⟩ := lookupStore_spec c (fp o) "get" s4
  rw [e4, e3, entryLookup_insert_same] at h5
  refine ⟨s5, ?_, by rw [e5, e4, e3, e2, e1]⟩
  simp only [setReq, bind_run, emit_run, h1, Bool.false_eq_true, if_false, backendSet, H.memory, h2, h3, handle,
    backendGet, h4, h5, pure_run]

theorem cached_memory_spec (o : V) (ho : D o) (s : St) :
    ∃ s', cachedOp env run x c .evaluate o s = some ((match entryLookup (fp o) (s.E c) with
        | some v => .ok v
        | Option.none => den o), s') ∧
      s'.E c = (match entryLookup (fp o) (s.E c), den o with
        | Option.none, .ok v => entryInsert (fp o) v (s.E c)
        | _, _ => s.E c) := by
  obtain ⟨s1, h1, e1⟩ := fs_exists H o ho s
  cases hl : entryLookup (fp o) (s.E c) with
  | some v =>
    obtain ⟨s2, h2, e2⟩ := fs_get H o ho s1
    rw [e1, hl] at h2
    rw [hl] at h1
    exact ⟨s2, cached_hit env run x c o s s1 s2 v h1 h2, e2.trans e1⟩
  | none =>
    rw [hl] at h1
    obtain ⟨s2, h2, e2⟩ := H.inner o ho s1
    cases hd : den o with
    | error err =>
      rw [hd] at h2
      exact ⟨s2, cached_failure_stores_nothing env run x c o s s1 s2 err h1 h2, e2.trans e1⟩
    | ok v =>
      rw [hd] at h2
      obtain ⟨s3, h3, e3⟩ := fs_set H o ho v s2
      exact ⟨s3, by rw [cached_miss env run x c o s s1 h1, bind_of_ok h2, h3], by rw [e3, e2, e1]⟩

theorem cached_failure_leaves_store (o : V) (ho : D o) (s : St) (hinv : StoreInv c D fp den s) (err : Err)
    (hd : den o = .error err) (r : Except Err V) (s' : St) (h : cachedOp env run x c .evaluate o s = some (r, s')) :
    r = .error err ∧ s'.E c = s.E c := by
  obtain ⟨s'', h', e'⟩ := cached_memory_spec H o ho s
  cases h.symm.trans h'
  cases hl : entryLookup (fp o) (s.E c) with
  | some w => cases hd.symm.trans (hinv.lookup H.sufficient ho hl)
  | none => simp only [hl, hd] at e' ⊢; exact ⟨trivial, e'⟩

theorem cached_evaluate_stores (o : V) (ho : D o) (s : St) (hinv : StoreInv c D fp den s) (v : V) (hv : den o = .ok v)
    (r : Except Err V) (s' : St) (h : cachedOp env run x c .evaluate o s = some (r, s')) :
    entryLookup (fp o) (s'.E c) = some v := by
  obtain ⟨s'', h', e'⟩ := cached_memory_spec H o ho s
  cases h.symm.trans h'
  cases hl : entryLookup (fp o) (s.E c) with
  | some w =>
    cases hv.symm.trans (hinv.lookup H.sufficient ho hl)
    simp only [hl] at e'
    rw [e', hl]
  | none =>
    simp only [hl, hv] at e'
    rw [e', entryLookup_insert_same]

theorem cached_hit_runs_nothing (o : V) (ho : D o) (t : St) (v : V) (hent : entryLookup (fp o) (t.E c) = some v) :
    cachedOp env run x c .evaluate o t = (existsReq env run x c o >>= fun _ => getReq env run x c o) t := by
  obtain ⟨s1, h1, e1⟩ := fs_exists H o ho t
  obtain ⟨s2, h2, _⟩ := fs_get H o ho s1
  rw [e1, hent] at h2
  rw [hent] at h1
  rw [cached_hit env run x c o t s1 s2 v h1 h2, bind_of_ok h1, h2]

end
end Labrea
