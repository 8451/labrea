/-
  The cache discipline of `Cached.evaluate` (memory, nocache and scripted backends): what the operations on the store do
  to the entries of a cache, the steps of `Cached.evaluate`, and where a returned value comes from.
-/
import LabreaModel.MonadLemmas
namespace Labrea

theorem entryLookup_insert_same (fp v : V) : ∀ es, entryLookup fp (entryInsert fp v es) = some v
  | [] => by simp [entryInsert, entryLookup]
  | (k, w) :: rest => by
    by_cases h : k = fp
    · simp [entryInsert, entryLookup, h]
    · simp [entryInsert, entryLookup, h, entryLookup_insert_same fp v rest]

theorem entryLookup_insert_other {fp fp' : V} (h : fp' ≠ fp) (v : V) : ∀ es, entryLookup fp' (entryInsert fp v es) = entryLookup fp' es
  | [] => by simp [entryInsert, entryLookup, Ne.symm h]
  | (k, w) :: rest => by
    by_cases hk : k = fp
    · subst hk; simp [entryInsert, entryLookup, Ne.symm h]
    · by_cases hk' : k = fp'
      · subst hk'; simp [entryInsert, entryLookup, h]
      · simp [entryInsert, entryLookup, hk, hk', entryLookup_insert_other h v rest]

theorem entryLookup_erase {f g v : V} : ∀ {es : List (V × V)}, entryLookup g (entryErase f es) = some v →
    g ≠ f ∧ entryLookup g es = some v
  | [], h => by simp [entryErase, entryLookup] at h
  | (k, w) :: rest, h => by
    unfold entryErase at h
    by_cases hk : k = f
    · rw [List.filter_cons_of_neg (by simpa using hk)] at h
      obtain ⟨hg, hl⟩ := entryLookup_erase (es := rest) h
      exact ⟨hg, by simp [entryLookup, hl, show k ≠ g from fun e => hg (e ▸ hk)]⟩
    · rw [List.filter_cons_of_pos (by simpa using hk)] at h
      by_cases hkg : k = g
      · subst hkg
        simpa [entryLookup, hk] using h
      · simp only [entryLookup, hkg, if_false] at h ⊢
        exact entryLookup_erase (es := rest) h

theorem cacheEntries_set_same (s : St) (c : Nat) (es : List (V × V)) : (s.setCacheEntries c es).cacheEntries c = es := by
  unfold St.setCacheEntries St.cacheEntries
  by_cases h : s.caches.any (fun p => p.1 == c) = true
  · -- the replacement keeps the cache's number, so `find?` stops at the same place
    have hf : ((fun p : Nat × List (V × V) => p.1 == c) ∘ fun p => if p.1 == c then (c, es) else p) = fun p => p.1 == c := by
      funext p
      by_cases hp : p.1 = c <;> simp [hp]
    obtain ⟨q, hq⟩ := Option.isSome_iff_exists.mp
      ((List.find?_isSome (p := fun p : Nat × List (V × V) => p.1 == c)).mpr (List.any_eq_true.mp h))
    simp only [h, if_true, List.find?_map, hf, hq, Option.map_some, List.find?_some hq]
  · have : s.caches.find? (fun p => p.1 == c) = Option.none := by
      rw [List.find?_eq_none]
      exact fun p hp hc => h (List.any_eq_true.mpr ⟨p, hp, hc⟩)
    simp [h, List.find?_append, this]

theorem store_then_lookup (s : St) (c : Nat) (fp v : V) :
    entryLookup fp ((s.setCacheEntries c (entryInsert fp v (s.cacheEntries c))).cacheEntries c) = some v := by
  rw [cacheEntries_set_same, entryLookup_insert_same]

theorem store_keeps_others (s : St) (c : Nat) {fp fp' : V} (h : fp' ≠ fp) (v : V) :
    entryLookup fp' ((s.setCacheEntries c (entryInsert fp v (s.cacheEntries c))).cacheEntries c) =
      entryLookup fp' (s.cacheEntries c) := by
  rw [cacheEntries_set_same, entryLookup_insert_other h]

/-- the entries of cache `c` -/
abbrev St.E (s : St) (c : Nat) : List (V × V) := s.cacheEntries c

theorem E_of_caches {s s' : St} (h : s'.caches = s.caches) (c : Nat) : s'.E c = s.E c := by
  simp only [St.E, St.cacheEntries, h]

theorem lookupStore_spec (c : Nat) (f : V) (what : String) (s : St) :
    ∃ s', lookupStore c f what s = some (.ok (entryLookup f (s.E c)), s') ∧ s'.E c = s.E c := by
  simp only [lookupStore, bind_run, getSt]
  cases entryLookup f (s.cacheEntries c) <;> exact ⟨_, rfl, rfl⟩

theorem storeEntry_spec (c : Nat) (f v : V) (s : St) :
    ∃ s', storeEntry c f v s = some (.ok (), s') ∧ s'.E c = entryInsert f v (s.E c) :=
  ⟨_, rfl, cacheEntries_set_same s c _⟩

theorem forgetEntry_spec (c : Nat) (f : V) (s : St) :
    ∃ s', forgetEntry c f s = some (.ok (), s') ∧ s'.E c = entryErase f (s.E c) :=
  ⟨_, rfl, cacheEntries_set_same s c _⟩

theorem nextFault_spec (c : Nat) (s : St) : ∃ f s', nextFault c s = some (.ok f, s') ∧ s'.caches = s.caches := by
  unfold nextFault
  split <;> exact ⟨_, _, rfl, rfl⟩

theorem blindFault_spec (c : Nat) (s : St) : ∃ b s', blindFault c s = some (.ok b, s') ∧ s'.caches = s.caches := by
  unfold blindFault
  split <;> exact ⟨_, _, rfl, rfl⟩

theorem blindFault_false {c : Nat} {s s' : St} (h : blindFault c s = some (.ok false, s')) : s' = s := by
  unfold blindFault at h
  split at h <;> cases h
  rfl

variable (env : Env) (run : Run) (x : Expr) (c : Nat) (o : V)

theorem cached_hit (s s1 s2 : St) (v : V) (he : existsReq env run x c o s = some (.ok true, s1))
    (hg : getReq env run x c o s1 = some (.ok v, s2)) :
    cachedOp env run x c .evaluate o s = some (.ok v, s2) := by
  simp [cachedOp, cacheLookup, he, hg]

theorem cached_miss (s s1 : St) (he : existsReq env run x c o s = some (.ok false, s1)) :
    cachedOp env run x c .evaluate o s = (do let v ← run .evaluate x o; setReq env run x c o v) s1 := by
  simp [cachedOp, cacheLookup, he]

theorem cached_get_failure_recomputes (s s1 s2 : St) (he : existsReq env run x c o s = some (.ok true, s1))
    (hg : getReq env run x c o s1 = some (.error cacheGetFailure, s2)) :
    cachedOp env run x c .evaluate o s = (do let v ← run .evaluate x o; setReq env run x c o v) s2 := by
  simp [cachedOp, cacheLookup, he, hg]

theorem cached_failure_stores_nothing (s s1 s2 : St) (err : Err) (he : existsReq env run x c o s = some (.ok false, s1))
    (hx : run .evaluate x o s1 = some (.error err, s2)) :
    cachedOp env run x c .evaluate o s = some (.error err, s2) := by
  rw [cached_miss env run x c o s s1 he, bind_of_err hx]

/-- the common head of `existsReq`, `getReq` and `setReq` -/
theorem request_eq_ok {α} {name : String} {yes no : M α} {s s' : St} {a : α}
    (h : (do emit (.req name x.id); if ← cacheDisabled env run o then yes else no) s = some (.ok a, s')) :
    ∃ s1, yes s1 = some (.ok a, s') ∨ no s1 = some (.ok a, s') := by
  obtain ⟨_, _, _, h⟩ := bind_eq_ok.mp h
  obtain ⟨off, s1, _, h⟩ := bind_eq_ok.mp h
  cases off
  · exact ⟨s1, Or.inr h⟩
  · exact ⟨s1, Or.inl h⟩

theorem getReq_value (s s' : St) (v : V) (h : getReq env run x c o s = some (.ok v, s')) :
    ∃ s1, backendGet env run x c o s1 = some (.ok v, s') := by
  obtain ⟨s1, h | h⟩ := request_eq_ok env run x o h
  · cases h
  · exact ⟨s1, h⟩

theorem setReq_value (s s' : St) (v w : V) (h : setReq env run x c o v s = some (.ok w, s')) :
    w = v ∨ ∃ s1 s2, backendGet env run x c o s1 = some (.ok w, s2) := by
  obtain ⟨s1, h | h⟩ := request_eq_ok env run x o h
  · cases h
    exact Or.inl rfl
  · obtain ⟨_, s2, _, h⟩ := bind_eq_ok.mp h
    rcases handle_miss_eq_ok.mp h with hg | ⟨_, hw⟩
    · exact Or.inr ⟨s2, s', hg⟩
    · exact Or.inl hw

theorem cached_value_origin (s s' : St) (w : V) (h : cachedOp env run x c .evaluate o s = some (.ok w, s')) :
    (∃ s1 s2, run .evaluate x o s1 = some (.ok w, s2)) ∨ ∃ s1 s2, backendGet env run x c o s1 = some (.ok w, s2) := by
  simp only [cachedOp] at h
  obtain ⟨hit, s1, hl, h⟩ := bind_eq_ok.mp h
  cases hit with
  | some v =>
    cases h
    unfold cacheLookup at hl
    obtain ⟨b, _, _, hl⟩ := bind_eq_ok.mp hl
    cases b
    · cases hl
    · rcases handle_miss_eq_ok.mp hl with hg | ⟨_, hn⟩
      · obtain ⟨_, _, hg, hp⟩ := bind_eq_ok.mp hg
        cases hp
        exact Or.inr ((getReq_value env run x c o _ _ _ hg).imp fun _ h => ⟨_, h⟩)
      · cases hn
  | none =>
    obtain ⟨v, s2, hx, h⟩ := bind_eq_ok.mp h
    rcases setReq_value env run x c o s2 s' v w h with rfl | hg
    · exact Or.inl ⟨s1, s2, hx⟩
    · exact Or.inr hg

theorem backendGet_from_store (s s' : St) (v : V) (h : backendGet env run x c o s = some (.ok v, s')) :
    ∃ (fp : V) (s1 : St), fingerprintOf run x o s = some (.ok fp, s1) ∧ entryLookup fp (s1.cacheEntries c) = some v := by
  have look : ∀ {fp : V} {t : St}, (do match ← lookupStore c fp "get" with
        | some v => pure v
        | Option.none => raise cacheGetFailure) t = some (.ok v, s') → entryLookup fp (t.E c) = some v := by
    intro fp t h
    obtain ⟨res, _, hl, h⟩ := bind_eq_ok.mp h
    obtain ⟨_, hl', _⟩ := lookupStore_spec c fp "get" t
    cases hl.symm.trans hl'
    cases hr : entryLookup fp (t.E c) <;> rw [hr] at h <;> cases h
    rfl
  cases hk : env.cacheKind c <;> simp only [backendGet, hk] at h
  case nocache => cases h
  case memory =>
    obtain ⟨fp, s1, hf, h1⟩ := bind_eq_ok.mp h
    exact ⟨fp, s1, hf, look h1⟩
  case scripted =>
    obtain ⟨blind, s0, hb, h1⟩ := bind_eq_ok.mp h
    cases blind
    case true => simp at h1
    -- no blind fault: the script is untouched so far, and `nextFault` touches nothing but the script
    cases blindFault_false hb
    obtain ⟨fp, s1, hf, h2⟩ := bind_eq_ok.mp h1
    obtain ⟨flt, s2, hn, h3⟩ := bind_eq_ok.mp h2
    obtain ⟨_, _, hn', hc⟩ := nextFault_spec c s1
    cases hn.symm.trans hn'
    have hE : s2.cacheEntries c = s1.cacheEntries c := E_of_caches hc c
    refine ⟨fp, s1, hf, hE ▸ ?_⟩
    cases flt
    case miss | failGet | forget => simp [forgetEntry] at h3
    case behave | lieExists | lieBlind => exact look h3

theorem memory_get_from_store (_hk : env.cacheKind c = .memory) (s s' : St) (v : V)
    (h : backendGet env run x c o s = some (.ok v, s')) :
    ∃ (fp : V) (s1 : St), fingerprintOf run x o s = some (.ok fp, s1) ∧ entryLookup fp (s1.cacheEntries c) = some v :=
  backendGet_from_store env run x c o s s' v h

theorem scripted_get_from_store (_hk : env.cacheKind c = .scripted) (s s' : St) (v : V)
    (h : backendGet env run x c o s = some (.ok v, s')) :
    ∃ (fp : V) (s1 s2 : St), fingerprintOf run x o s = some (.ok fp, s1) ∧ entryLookup fp (s2.cacheEntries c) = some v ∧
      s2.caches = s1.caches :=
  let ⟨fp, s1, hf, hl⟩ := backendGet_from_store env run x c o s s' v h
  ⟨fp, s1, s1, hf, hl, rfl⟩

end Labrea
