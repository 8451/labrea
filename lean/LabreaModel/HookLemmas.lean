/-
  Lemmas about the class-creation model `LabreaModel.Hook` (used by LabreaProps.C18).

  The hooks write disjoint names, so class creation is analysed one method at a time: on the pair
  (own attribute `m`, own slot `m`) all hooks together act as the pure function `hookPair`
  (`mkClass_pair`), and everything about chains of subclasses is a fact about that function.
-/
import LabreaModel.Hook

namespace Labrea.Hook

theorem lookupAttr_cons (m : Meth) (c : Cls) (w : MRO) :
    lookupAttr m (c :: w) = (c.attr m).or (lookupAttr m w) := by
  cases h : c.attr m <;> simp [lookupAttr, h]

theorem lookupSlot_cons (m : Meth) (c : Cls) (w : MRO) :
    lookupSlot m (c :: w) = (c.slot m).or (lookupSlot m w) := by
  cases h : c.slot m <;> simp [lookupSlot, h]

theorem hooked_cons (c : Cls) (w : MRO) (m : Meth) : hooked (c :: w) m = (c.root m || hooked w m) :=
  rfl

/-- Effect of the hook for `m` on the pair (own attr `m`, own slot `m`), `inh` being what the
    ancestors provide for `m`. -/
def hookPair (m : Meth) (inh : Option Fn) (p : Option Fn × Option Fn) : Option Fn × Option Fn :=
  match p.1.or inh with
  | some f => if f.marked then p else (some (.wrapper m), some f)
  | none => p

@[simp] theorem Fn.marked_wrapper (m : Meth) : (Fn.wrapper m).marked = true := rfl

theorem hookPair_idem (m : Meth) (inh : Option Fn) (p : Option Fn × Option Fn) :
    hookPair m inh (hookPair m inh p) = hookPair m inh p := by
  unfold hookPair
  cases h : p.1.or inh with
  | none => simp [h]
  | some f => cases hf : f.marked <;> simp [h, hf]

def Cls.pair (c : Cls) (k : Meth) : Option Fn × Option Fn := (c.attr k, c.slot k)

theorem Cls.ext' {c d : Cls} (hid : c.id = d.id) (hroot : c.root = d.root)
    (hp : ∀ k, c.pair k = d.pair k) : c = d := by
  obtain ⟨i, a, s, r⟩ := c
  obtain ⟨i', a', s', r'⟩ := d
  obtain rfl : i = i' := hid
  obtain rfl : r = r' := hroot
  obtain rfl : a = a' := funext fun k => congrArg Prod.fst (hp k)
  obtain rfl : s = s' := funext fun k => congrArg Prod.snd (hp k)
  rfl

theorem runHook_pair (m : Meth) (anc : MRO) (c : Cls) (k : Meth) :
    (runHook m anc c).pair k =
      if k = m then hookPair m (lookupAttr m anc) (c.pair m) else c.pair k := by
  simp only [runHook, hookPair, Cls.pair, lookupAttr_cons]
  rcases (c.attr m).or (lookupAttr m anc) with _ | f
  · by_cases hk : k = m <;> simp [hk]
  · cases hf : f.marked
    · by_cases hk : k = m <;> simp [setAt, hk, hf]
    · by_cases hk : k = m <;> simp [hk, hf]

theorem runHook_frame (m : Meth) (anc : MRO) (c : Cls) :
    (runHook m anc c).id = c.id ∧ (runHook m anc c).root = c.root := by
  unfold runHook
  split
  · split <;> exact ⟨rfl, rfl⟩
  · exact ⟨rfl, rfl⟩

@[simp] theorem runHooks_nil (anc : MRO) (c : Cls) : runHooks [] anc c = c := rfl

@[simp] theorem runHooks_cons (m : Meth) (ms : List Meth) (anc : MRO) (c : Cls) :
    runHooks (m :: ms) anc c = runHooks ms anc (runHook m anc c) := rfl

theorem runHooks_frame (ms : List Meth) (anc : MRO) (c : Cls) :
    (runHooks ms anc c).id = c.id ∧ (runHooks ms anc c).root = c.root := by
  induction ms generalizing c with
  | nil => exact ⟨rfl, rfl⟩
  | cons m ms ih =>
    have h := runHook_frame m anc c
    exact ⟨(ih _).1.trans h.1, (ih _).2.trans h.2⟩

theorem runHooks_pair (ms : List Meth) (anc : MRO) (c : Cls) (k : Meth) :
    (runHooks ms anc c).pair k =
      if k ∈ ms then hookPair k (lookupAttr k anc) (c.pair k) else c.pair k := by
  induction ms generalizing c with
  | nil => simp
  | cons m ms ih =>
    rw [runHooks_cons, ih, runHook_pair]
    by_cases hkm : k = m
    · subst hkm
      by_cases hmem : k ∈ ms <;> simp [hmem, hookPair_idem]
    · simp [hkm]

theorem runHooks_congr (ms ms' : List Meth) (anc : MRO) (c : Cls)
    (h : ∀ k, k ∈ ms ↔ k ∈ ms') : runHooks ms anc c = runHooks ms' anc c :=
  Cls.ext' (by simp only [runHooks_frame]) (by simp only [runHooks_frame])
    fun k => by simp only [runHooks_pair, h k]

theorem runHooks_idem (ms ms' : List Meth) (anc : MRO) (c : Cls) (h : ∀ k, k ∈ ms' → k ∈ ms) :
    runHooks ms' anc (runHooks ms anc c) = runHooks ms anc c := by
  rw [runHooks, runHooks, ← List.foldl_append]
  exact runHooks_congr (ms ++ ms') ms anc c fun k => by simpa using h k

theorem mem_hookOrder (anc : MRO) (m : Meth) : m ∈ hookOrder anc ↔ hooked anc m = true := by
  simp [hookOrder, hooked, Meth.mem_all]

theorem mkClass_pair (b : Body) (anc : MRO) (m : Meth) :
    (mkClass b anc).pair m =
      if hooked anc m = true then hookPair m (lookupAttr m anc) ((rawClass b).pair m)
      else (rawClass b).pair m := by
  simp only [mkClass, runHooks_pair, mem_hookOrder]

theorem mkClass_root (b : Body) (anc : MRO) : (mkClass b anc).root = b.root :=
  (runHooks_frame ..).2

theorem mkClass_attr (b : Body) (anc : MRO) (m : Meth) :
    (mkClass b anc).attr m = ((mkClass b anc).pair m).1 := rfl

theorem mkClass_slot (b : Body) (anc : MRO) (m : Meth) :
    (mkClass b anc).slot m = ((mkClass b anc).pair m).2 := rfl

theorem hooked_extend (anc : MRO) (b : Body) (m : Meth) (h : hooked anc m = true) :
    hooked (extend anc b) m = true := by
  rw [extend, hooked_cons, h, Bool.or_true]

theorem wrappedAt_iff (m : Meth) (w : MRO) :
    wrappedAt m w = true ↔ lookupAttr m w = some (.wrapper m) := by
  simp [wrappedAt]

theorem inv_iff (m : Meth) (w : MRO) (r : Option Fn) :
    Inv m w r ↔ (lookupAttr m w = some (.wrapper m) ∧ lookupSlot m w = r) ∨
      (lookupAttr m w ≠ some (.wrapper m) ∧
        ∃ f, lookupAttr m w = some f ∧ f.marked = false ∧ r = some f) := by
  unfold Inv
  cases lookupAttr m w with
  | none => simp
  | some f => by_cases hf : f = .wrapper m <;> simp [hf]

/-- `h`: what `cls.m` evaluates to inside the hook (the body's own binding, else the inherited
    attribute). -/
theorem extend_unmarked (w : MRO) (b : Body) (m : Meth) {f : Fn} (hh : hooked w m = true)
    (h : (b.meth m).value.or (lookupAttr m w) = some f) (hf : f.marked = false) :
    lookupAttr m (extend w b) = some (.wrapper m) ∧ lookupSlot m (extend w b) = some f := by
  rw [extend, lookupAttr_cons, lookupSlot_cons, mkClass_attr, mkClass_slot, mkClass_pair, if_pos hh]
  simp [hookPair, rawClass, Cls.pair, h, hf]

theorem extend_marked (w : MRO) (b : Body) (m : Meth) {f : Fn} (hh : hooked w m = true)
    (h : (b.meth m).value.or (lookupAttr m w) = some f) (hf : f.marked = true) :
    lookupAttr m (extend w b) = some f ∧
    lookupSlot m (extend w b) = if b.slot m then some (.slotfn b.id m) else lookupSlot m w := by
  rw [extend, lookupAttr_cons, lookupSlot_cons, mkClass_attr, mkClass_slot, mkClass_pair, if_pos hh]
  cases hsl : b.slot m <;> simp [hookPair, rawClass, Cls.pair, h, hf, hsl]

theorem step_ok (m : Meth) (w : MRO) (prev : Option Fn) (b : Body)
    (hh : hooked w m = true) (hinv : Inv m w prev)
    (hok : StepOK m (wrappedAt m w) prev b) :
    lookupAttr m (extend w b) = some (.wrapper m) ∧
    lookupSlot m (extend w b) = stepIntended m prev b := by
  unfold StepOK at hok
  unfold stepIntended
  rw [wrappedAt_iff] at hok
  cases hd : b.meth m with
  | fn f =>
    rw [hd] at hok
    exact extend_unmarked w b m hh (by rw [hd]; rfl) hok
  | alias src m' =>
    obtain ⟨rfl, hsrc⟩ := hd ▸ hok
    obtain ⟨hA, hS⟩ := extend_marked w b m' (f := .wrapper m') hh (by rw [hd]; rfl) rfl
    refine ⟨hA, hS.trans ?_⟩
    cases hsl : b.slot m' with
    | true => rfl
    | false =>
      obtain ⟨rfl, ha⟩ := hsrc hsl
      rcases (inv_iff m' w src).1 hinv with ⟨_, hs⟩ | ⟨hnw, _⟩
      · simp [hs]
      · exact absurd ha hnw
  | absent =>
    rw [hd] at hok
    have hv : (b.meth m).value.or (lookupAttr m w) = lookupAttr m w := by rw [hd]; rfl
    rcases (inv_iff m w prev).1 hinv with ⟨ha, hs⟩ | ⟨hnw, g, ha, hg, rfl⟩
    · obtain ⟨hA, hS⟩ := extend_marked w b m hh (hv.trans ha) rfl
      exact ⟨hA, hs ▸ hS⟩
    · -- raw base: `StepOK` allows the body no slot of its own, so the wrapped function is the slot
      have hsl : b.slot m = false := Bool.eq_false_iff.2 fun h => hnw (hok h)
      simpa [hsl] using extend_unmarked w b m hh (hv.trans ha) hg

theorem build_append (w : MRO) (bs cs : List Body) : build w (bs ++ cs) = build (build w bs) cs := by
  induction bs generalizing w with
  | nil => rfl
  | cons b bs ih => exact ih (extend w b)

theorem hooked_build (w : MRO) (bs : List Body) (m : Meth) (h : hooked w m = true) :
    hooked (build w bs) m = true := by
  induction bs generalizing w with
  | nil => exact h
  | cons b bs ih => exact ih (extend w b) (hooked_extend w b m h)

theorem step_marked (m : Meth) (w : MRO) (b : Body)
    (hh : hooked w m = true) (hsome : (lookupAttr m w).isSome = true) :
    ∃ f, lookupAttr m (extend w b) = some f ∧ f.marked = true := by
  obtain ⟨f, hf⟩ : ∃ f, (b.meth m).value.or (lookupAttr m w) = some f :=
    Option.isSome_iff_exists.1 (by simp [hsome])
  cases hm : f.marked with
  | true => exact ⟨f, (extend_marked w b m hh hf hm).1, hm⟩
  | false => exact ⟨_, (extend_unmarked w b m hh hf hm).1, rfl⟩

theorem inert_iff (c : Cls) :
    c.inert = true ↔ ∀ m, c.attr m = none ∧ c.slot m = none ∧ c.root m = false := by
  simp only [Cls.inert, Meth.all_all, Bool.and_eq_true, Option.isNone_iff_eq_none,
    Bool.not_eq_true', and_assoc]

/-- `p` is arbitrary because the translator drops the bases outside the class table, not every
    inert class. -/
theorem drop_inert (p : Cls → Bool) (hp : ∀ c, p c = false → c.inert = true) (m : Meth) (w : MRO) :
    lookupAttr m (w.filter p) = lookupAttr m w ∧
    lookupSlot m (w.filter p) = lookupSlot m w ∧
    hooked (w.filter p) m = hooked w m := by
  induction w with
  | nil => exact ⟨rfl, rfl, rfl⟩
  | cons c cs ih =>
    obtain ⟨iha, ihs, ihr⟩ := ih
    cases hc : p c with
    | true =>
      rw [List.filter_cons_of_pos hc]
      simp only [lookupAttr_cons, lookupSlot_cons, hooked_cons, iha, ihs, ihr, and_self]
    | false =>
      obtain ⟨ha, hs, hr⟩ := (inert_iff c).1 (hp c hc) m
      rw [List.filter_cons_of_neg (by simp [hc])]
      simp only [lookupAttr_cons, lookupSlot_cons, hooked_cons, ha, hs, hr, Option.none_or,
        Bool.false_or]
      exact ⟨iha, ihs, ihr⟩

theorem checkRow_sound (r : Row) (h : checkRow r = true) (m : Meth) (hh : hooked r.anc m = true) :
    lookupAttr m r.mro = some (.wrapper m) ∧
    lookupSlot m r.mro = stepIntended m (resolved m r.anc) r.body := by
  have := (Meth.all_all _).1 h m
  simp only [hh, Bool.not_true, Bool.false_or, Bool.and_eq_true, decide_eq_true_eq] at this
  exact step_ok m r.anc _ r.body hh this.1 this.2

theorem tableCheck_iff (t : List Entry) :
    tableCheck t = true ↔ ∃ rows, evalTable t [] = some rows ∧ ∀ r ∈ rows, checkRow r = true := by
  unfold tableCheck
  cases evalTable t [] <;> simp

theorem tableCheck_sound (t : List Entry) (hc : tableCheck t = true) (rows : List Row)
    (h : evalTable t [] = some rows) (r : Row) (hr : r ∈ rows) (m : Meth)
    (hh : hooked r.anc m = true) :
    lookupAttr m r.mro = some (.wrapper m) ∧
    lookupSlot m r.mro = stepIntended m (resolved m r.anc) r.body := by
  obtain ⟨rows', h', hall⟩ := (tableCheck_iff t).1 hc
  obtain rfl : rows' = rows := Option.some.inj (h'.symm.trans h)
  exact checkRow_sound r (hall r hr) m hh

end Labrea.Hook
