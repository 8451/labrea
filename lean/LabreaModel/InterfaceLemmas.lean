/-
  Lemmas about InterfaceSM used by LabreaProps/C07.lean.  The centre is `step_ds`: a step maps
  the record of every dataset it does not create by `stepRec` (registrations on the table,
  perhaps a new dispatch, perhaps one stored cold value).  The cache invariant (`stored_step`),
  persistence of a registration (`step_keeps_registration`) and the interface invariant
  (`step_keeps_member`) each read one field of `stepRec`.
-/
import LabreaModel.InterfaceSM
namespace Labrea.Iface

theorem setDs_ds (s : St) (d : DsId) (r : DsRec) (x : DsId) :
    (s.setDs d r).ds x = if x = d then some r else s.ds x := rfl

theorem setDs_ifs (s : St) (d : DsId) (r : DsRec) : (s.setDs d r).ifs = s.ifs := rfl

theorem modDs_ds (s : St) (d : DsId) (f : DsRec → DsRec) (x : DsId) :
    (s.modDs d f).ds x = if x = d then (s.ds x).map f else s.ds x := by
  unfold St.modDs
  by_cases hx : x = d
  · subst hx; cases h : s.ds x <;> simp [St.setDs, h]
  · cases s.ds d <;> simp [St.setDs, hx]

theorem modDs_ifs (s : St) (d : DsId) (f : DsRec → DsRec) : (s.modDs d f).ifs = s.ifs := by
  unfold St.modDs
  cases s.ds d <;> rfl

theorem foldl_ifs {α : Type} (g : St → α → St) (hg : ∀ s x, (g s x).ifs = s.ifs) (l : List α)
    (s : St) : (l.foldl g s).ifs = s.ifs := by
  induction l generalizing s with
  | nil => rfl
  | cons x l ih => rw [List.foldl_cons, ih, hg]

def regsTable (d : DsId) (regs : List Reg) (t : Table) : Table :=
  regs.foldl (fun t x => if x.1 = d then tinsert x.2.1 x.2.2 t else t) t

theorem regsTable_cons (d : DsId) (x : Reg) (regs : List Reg) (t : Table) :
    regsTable d (x :: regs) t = regsTable d regs (if x.1 = d then tinsert x.2.1 x.2.2 t else t) :=
  rfl

theorem applyRegs_ds (regs : List Reg) (s : St) (d : DsId) :
    (applyRegs s regs).ds d =
      (s.ds d).map fun r => { r with table := regsTable d regs r.table } := by
  induction regs generalizing s with
  | nil => simp [applyRegs, regsTable]
  | cons x regs ih =>
    have h1 : applyRegs s (x :: regs) = applyRegs (regDs s x.1 x.2.1 x.2.2) regs := rfl
    rw [h1, ih, regDs, modDs_ds]
    by_cases hx : d = x.1
    · subst hx; cases s.ds x.1 <;> simp [regsTable_cons]
    · cases s.ds d <;> simp [regsTable_cons, hx, Ne.symm hx]

theorem applyRegs_ifs (regs : List Reg) (s : St) : (applyRegs s regs).ifs = s.ifs :=
  foldl_ifs _ (fun _ _ => modDs_ifs _ _ _) regs s

theorem tlookup_regsTable (d : DsId) (a : Alias) (regs : List Reg) (t : Table) :
    (∃ x ∈ regs, x.1 = d ∧ pyEq x.2.1 a ∧ tlookup a (regsTable d regs t) = some x.2.2) ∨
    ((∀ x ∈ regs, x.1 = d → ¬ pyEq x.2.1 a) ∧ tlookup a (regsTable d regs t) = tlookup a t) := by
  induction regs generalizing t with
  | nil => exact .inr ⟨nofun, rfl⟩
  | cons x regs ih =>
    rw [regsTable_cons]
    rcases ih (if x.1 = d then tinsert x.2.1 x.2.2 t else t) with ⟨y, hy, h⟩ | ⟨hno, hl⟩
    · exact .inl ⟨y, List.mem_cons_of_mem _ hy, h⟩
    · -- no later registration concerns `a`: `x` decides
      by_cases hx : x.1 = d ∧ pyEq x.2.1 a
      · refine .inl ⟨x, List.mem_cons_self, hx.1, hx.2, ?_⟩
        rw [hl, if_pos hx.1, tlookup_tinsert, if_pos hx.2]
      · refine .inr ⟨fun y hy => ?_, ?_⟩
        · rcases List.mem_cons.mp hy with rfl | hy
          · exact fun h1 h2 => hx ⟨h1, h2⟩
          · exact hno y hy
        · rw [hl]; split
          · rw [tlookup_tinsert, if_neg fun h => hx ⟨‹_›, h⟩]
          · rfl

theorem regsTable_keep (d : DsId) (a : Alias) (regs : List Reg)
    (h : ∀ x ∈ regs, x.1 = d → ¬ pyEq x.2.1 a) (t : Table) :
    tlookup a (regsTable d regs t) = tlookup a t := by
  rcases tlookup_regsTable d a regs t with ⟨x, hx, hd, ha, _⟩ | ⟨_, hl⟩
  · exact absurd ha (h x hx hd)
  · exact hl

theorem regsTable_set (d : DsId) (a : Alias) (i : ImplId) (regs : List Reg)
    (hall : ∀ x ∈ regs, x.1 = d → pyEq x.2.1 a → x.2.2 = i)
    (hex : ∃ x ∈ regs, x.1 = d ∧ pyEq x.2.1 a) (t : Table) :
    tlookup a (regsTable d regs t) = some i := by
  rcases tlookup_regsTable d a regs t with ⟨x, hx, hd, ha, hl⟩ | ⟨hno, _⟩
  · rw [hl, hall x hx hd ha]
  · obtain ⟨x, hx, hd, ha⟩ := hex
    exact absurd ha (hno x hx hd)

theorem regsTable_untouched (d : DsId) (regs : List Reg) (h : ∀ x ∈ regs, x.1 ≠ d) (t : Table) :
    regsTable d regs t = t := by
  induction regs generalizing t with
  | nil => rfl
  | cons x regs ih =>
    rw [regsTable_cons, ih (fun y hy => h y (List.mem_cons_of_mem _ hy)),
      if_neg (h x List.mem_cons_self)]

theorem mem_overloadRegs {ts : List (DsId × List Alias)} {i : ImplId} {x : Reg}
    (h : x ∈ overloadRegs ts i) : ∃ t ∈ ts, x.1 = t.1 ∧ x.2.1 ∈ t.2 ∧ x.2.2 = i := by
  obtain ⟨t, ht, hx⟩ := List.mem_flatMap.mp h
  obtain ⟨a, ha, rfl⟩ := List.mem_map.mp hx
  exact ⟨t, ht, rfl, ha, rfl⟩

theorem mem_memberNames {flat : List (String × DsId)} {n : String} :
    n ∈ memberNames flat ↔ n ∈ flat.map Prod.fst := mem_dedupF

theorem mem_regsFor {flat : List (String × DsId)} {as : List Alias} {n : String} {i : ImplId}
    {x : Reg} : x ∈ regsFor flat as n i ↔ (n, x.1) ∈ flat ∧ x.2.1 ∈ as ∧ x.2.2 = i := by
  obtain ⟨d, a, j⟩ := x
  simp only [regsFor, List.mem_flatMap, List.mem_filter, List.mem_map, decide_eq_true_eq,
    Prod.mk.injEq, Prod.exists]
  constructor
  · rintro ⟨n', d', ⟨hm, rfl⟩, a', ha, rfl, rfl, rfl⟩; exact ⟨hm, ha, rfl⟩
  · rintro ⟨hm, ha, rfl⟩; exact ⟨n, d, ⟨hm, rfl⟩, a, ha, rfl, rfl, rfl⟩

theorem mem_implRegs {flat : List (String × DsId)} {as : List Alias}
    {pr : List (String × ImplId)} {x : Reg} :
    x ∈ implRegs flat as pr ↔
      ∃ n, (n, x.1) ∈ flat ∧ aget n pr = some x.2.2 ∧ x.2.1 ∈ as := by
  unfold implRegs
  rw [List.mem_flatMap]
  constructor
  · rintro ⟨n, _, hx⟩
    cases hp : aget n pr with
    | none => simp [hp] at hx
    | some i =>
      obtain ⟨h1, h2, h3⟩ := mem_regsFor.mp (by simpa only [hp] using hx)
      exact ⟨n, h1, h3 ▸ hp, h2⟩
  · rintro ⟨n, h1, h2, h3⟩
    refine ⟨n, mem_memberNames.mpr (List.mem_map.mpr ⟨_, h1, rfl⟩), ?_⟩
    simp only [h2]
    exact mem_regsFor.mpr ⟨h1, h3, rfl⟩

theorem unknownCheck_none {flat : List (String × DsId)} {pr : List (String × ImplId)} :
    unknownCheck flat pr = Option.none ↔ ∀ p ∈ pr, p.1 ∈ flat.map Prod.fst := by
  simp only [unknownCheck, List.find?_eq_none, Bool.not_eq_true, Bool.not_eq_false',
    List.contains_eq_mem, decide_eq_true_eq, mem_memberNames]

theorem unknownCheck_some {flat : List (String × DsId)} {pr : List (String × ImplId)}
    {p : String × ImplId} (h : unknownCheck flat pr = some p) :
    p ∈ pr ∧ p.1 ∉ flat.map Prod.fst :=
  ⟨List.mem_of_find?_eq_some h, by
    simpa only [Bool.not_eq_true', List.contains_eq_mem, decide_eq_false_iff_not, mem_memberNames]
      using List.find?_some h⟩

theorem abstractCheck_none {s : St} {flat : List (String × DsId)} {pr : List (String × ImplId)} :
    abstractCheck s flat pr = Option.none ↔
      ∀ m ∈ flat, isAbstract s m.2 = true → aget m.1 pr ≠ Option.none := by
  simp only [abstractCheck, List.find?_eq_none, mem_memberNames, List.mem_map, Bool.and_eq_true,
    Option.isNone_iff_eq_none, List.any_eq_true, beq_iff_eq]
  constructor
  · exact fun h m hm ha hn => h m.1 ⟨m, hm, rfl⟩ ⟨hn, m, hm, rfl, ha⟩
  · rintro h n _ ⟨hn, m, hm, rfl, ha⟩; exact h m hm ha hn

theorem abstractCheck_some {s : St} {flat : List (String × DsId)} {pr : List (String × ImplId)}
    {n : String} (h : abstractCheck s flat pr = some n) :
    aget n pr = Option.none ∧ ∃ m ∈ flat, m.1 = n ∧ isAbstract s m.2 = true := by
  have := List.find?_some h
  simp only [Bool.and_eq_true, Option.isNone_iff_eq_none, List.any_eq_true, beq_iff_eq] at this
  exact this

theorem defineImpl_cases (s : St) (ifs : List IfId) (as : List Alias) (pr : List (String × ImplId)) :
    (∃ e, defineImpl s ifs as pr = (s, some e)) ∨
    defineImpl s ifs as pr = (applyRegs s (implRegs (flatMembers s ifs) as pr), Option.none) := by
  unfold defineImpl
  simp only
  split
  · exact .inl ⟨_, rfl⟩
  · split
    · exact .inl ⟨_, rfl⟩
    · exact .inr rfl

theorem fingerprint_ok {env : Env} {c : Cfg} {o : Opts} {fp : Fingerprint}
    (h : fingerprint env c o = .ok fp) :
    ∃ ch ks, select env c o = .ok ch ∧ chosenKeys env c o ch = .ok ks ∧ fp = fpOf ks o := by
  unfold fingerprint at h
  split at h
  · cases h
  · split at h
    · cases h
    · cases h; exact ⟨_, _, ‹_›, ‹_›, rfl⟩

theorem den_of_select {env : Env} {c : Cfg} {o : Opts} {ch : Choice} {ks : List String}
    (hs : select env c o = .ok ch) (hk : chosenKeys env c o ch = .ok ks) :
    den env c o = (env.implVal ch.impl o).map (applyCb env c.callback) := by
  simp only [den, hs, hk]
  cases env.implVal ch.impl o <;> rfl

theorem den_of_fingerprint_error {env : Env} {c : Cfg} {o : Opts} {e : Err}
    (h : fingerprint env c o = .error e) : den env c o = .error e := by
  unfold fingerprint at h
  unfold den
  split at h
  · cases h; simp only [*]
  · split at h
    · cases h; simp only [*]
    · cases h

/-- the alias the dispatch of configuration `c` denotes under `o` (none: undetermined) -/
def dispatchAlias (env : Env) (c : Cfg) (o : Opts) : Option Alias :=
  match c.dispatch.eval env o with
  | .ok v => aliasOf v
  | .error _ => Option.none

theorem select_ok {env : Env} {c : Cfg} {o : Opts} {ch : Choice} (h : select env c o = .ok ch) :
    (∃ e i, c.dispatch.eval env o = .error e ∧ c.default = some i ∧ ch = .fallback i) ∨
    (∃ v a i, c.dispatch.eval env o = .ok v ∧ aliasOf v = some a ∧
      (tlookup a c.table = some i ∧ ch = .hit a i ∨
        tlookup a c.table = Option.none ∧ c.default = some i ∧ ch = .dflt a i)) := by
  unfold select at h
  split at h
  · split at h
    · cases h; exact .inl ⟨_, _, ‹_›, ‹_›, rfl⟩
    · cases h
  · split at h
    · cases h
    · split at h
      · cases h; exact .inr ⟨_, _, _, ‹_›, ‹_›, .inl ⟨‹_›, rfl⟩⟩
      · split at h
        · cases h; exact .inr ⟨_, _, _, ‹_›, ‹_›, .inr ⟨‹_›, ‹_›, rfl⟩⟩
        · cases h

theorem select_alias {env : Env} {c : Cfg} {o : Opts} {ch : Choice}
    (h : select env c o = .ok ch) : ch.alias? = dispatchAlias env c o := by
  unfold dispatchAlias
  rcases select_ok h with ⟨e, i, he, _, rfl⟩ | ⟨v, a, i, he, ha, ⟨_, rfl⟩ | ⟨_, _, rfl⟩⟩ <;>
    simp [*, Choice.alias?]

theorem tlookup_pyEq {a b : Alias} (h : pyEq a b) (t : Table) : tlookup a t = tlookup b t := by
  unfold tlookup; rw [show a.norm = b.norm from h]

theorem setDs_self {s : St} {d : DsId} {r : DsRec} (h : s.ds d = some r) : s.setDs d r = s := by
  cases s
  simp only [St.setDs, St.mk.injEq, and_true]
  funext x
  split
  · subst x; exact h.symm
  · rfl

/-- the cache part of `evalDs` -/
def storeCold (env : Env) (r : DsRec) (o : Opts) : List (Fingerprint × V) :=
  match fingerprint env r.toCfg o with
  | .error _ => r.cache
  | .ok fp => match aget fp r.cache with
    | some _ => r.cache
    | Option.none => match den env r.toCfg o with
      | .error _ => r.cache
      | .ok w => aput fp w r.cache

theorem mem_storeCold {env : Env} {r : DsRec} {o : Opts} {e : Fingerprint × V}
    (h : e ∈ storeCold env r o) :
    e ∈ r.cache ∨ (fingerprint env r.toCfg o = .ok e.1 ∧ den env r.toCfg o = .ok e.2) := by
  unfold storeCold at h
  split at h
  · exact .inl h
  · split at h
    · exact .inl h
    · split at h
      · exact .inl h
      · rcases mem_aput h with rfl | h
        · exact .inr ⟨‹_›, ‹_›⟩
        · exact .inl h

theorem evalDs_snd (env : Env) (s : St) (d : DsId) (o : Opts) :
    (evalDs env s d o).2 = s.modDs d fun r => { r with cache := storeCold env r o } := by
  unfold evalDs St.modDs storeCold
  cases hr : s.ds d with
  | none => rfl
  | some r =>
    -- an unchanged cache: `s.setDs d r = s`
    simp only
    cases fingerprint env r.toCfg o with
    | error e => exact (setDs_self hr).symm
    | ok fp =>
      simp only
      cases aget fp r.cache with
      | some v => exact (setDs_self hr).symm
      | none =>
        simp only
        cases den env r.toCfg o with
        | error e => exact (setDs_self hr).symm
        | ok w => rfl

theorem evalDs_res (env : Env) (s : St) (d : DsId) (o : Opts) (r : DsRec) (hr : s.ds d = some r) :
    (∃ fp v, fingerprint env r.toCfg o = .ok fp ∧ aget fp r.cache = some v ∧
        (evalDs env s d o).1.res = .ok v ∧ (evalDs env s d o).1.hit = true) ∨
    ((∀ fp, fingerprint env r.toCfg o = .ok fp → aget fp r.cache = Option.none) ∧
        (evalDs env s d o).1.res = den env r.toCfg o ∧ (evalDs env s d o).1.hit = false) := by
  unfold evalDs
  simp only [hr]
  cases hfp : fingerprint env r.toCfg o with
  | error e => exact .inr ⟨nofun, (den_of_fingerprint_error hfp).symm, rfl⟩
  | ok fp =>
    simp only
    cases hg : aget fp r.cache with
    | some v => exact .inl ⟨fp, v, rfl, hg, rfl, rfl⟩
    | none =>
      refine .inr ⟨fun _ h => by cases h; exact hg, ?_⟩
      cases den env r.toCfg o <;> exact ⟨rfl, rfl⟩

theorem evalDs_miss {env : Env} {s : St} {d : DsId} {o : Opts} {r : DsRec} (hr : s.ds d = some r)
    (hmiss : ∀ fp, fingerprint env r.toCfg o = .ok fp → aget fp r.cache = Option.none) :
    (evalDs env s d o).1.res = den env r.toCfg o ∧ (evalDs env s d o).1.hit = false := by
  rcases evalDs_res env s d o r hr with ⟨fp, v, hfp, hg, _⟩ | ⟨_, h⟩
  · rw [hmiss fp hfp] at hg; cases hg
  · exact h

def opRegs (s : St) : Op → List Reg
  | .register d a i => [(d, a, i)]
  | .overload ts i => if ts.all (fun t => hasDispatch s t.1) then overloadRegs ts i else []
  | .defineImpl ifs as pr => match (defineImpl s ifs as pr).2 with
    | Option.none => implRegs (flatMembers s ifs) as pr
    | some _ => []
  | _ => []

def opDisp (d : DsId) : Op → Option Dispatch
  | .setDispatch d0 disp => if d = d0 then some disp else Option.none
  | .defineInterface _ disp ms => if ms.any (fun m => m.2 = d) then some disp else Option.none
  | _ => Option.none

def opCache (env : Env) (d : DsId) (r : DsRec) : Op → List (Fingerprint × V)
  | .evaluate d0 o => if d = d0 then storeCold env r o else r.cache
  | _ => r.cache

def stepRec (env : Env) (s : St) (d : DsId) (op : Op) (r : DsRec) : DsRec :=
  { dispatch := (opDisp d op).getD r.dispatch
    table := regsTable d (opRegs s op) r.table
    default := r.default
    callback := r.callback
    cache := opCache env d r op }

theorem defIface_ds (s : St) (I : IfId) (disp : Dispatch) (ms : List (String × DsId)) (d : DsId) :
    (defIface s I disp ms).ds d =
      (s.ds d).map fun r => if ms.any (fun m => m.2 = d) then { r with dispatch := disp } else r := by
  show (ms.foldl (fun s m => setDisp s m.2 disp) s).ds d = _
  induction ms generalizing s with
  | nil => simp
  | cons m ms ih =>
    rw [List.foldl_cons, ih, setDisp, modDs_ds]
    by_cases hx : d = m.2
    · subst hx
      rw [if_pos rfl]
      cases s.ds m.2 with
      | none => rfl
      | some r =>
        simp only [Option.map_some, List.any_cons]
        split <;> rfl
    · have hdec : decide (m.2 = d) = false := decide_eq_false (Ne.symm hx)
      simp only [if_neg hx, List.any_cons, hdec, Bool.false_or]

theorem defIface_ifs (s : St) (I : IfId) (disp : Dispatch) (ms : List (String × DsId)) (x : IfId) :
    (defIface s I disp ms).ifs x = if x = I then some ⟨disp, ms⟩ else s.ifs x := by
  unfold defIface
  simp only
  rw [foldl_ifs (fun s (m : String × DsId) => setDisp s m.2 disp) fun _ _ => modDs_ifs _ _ _]

theorem step_ds (env : Env) (s : St) (op : Op) (d : DsId)
    (hnew : ∀ disp dflt cb, op ≠ .newDs d disp dflt cb) :
    (step env s op).1.ds d = (s.ds d).map (stepRec env s d op) := by
  -- the three registering operations are `applyRegs s (opRegs s op)`
  have regs : (step env s op).1 = applyRegs s (opRegs s op) → opDisp d op = Option.none →
      (∀ r, opCache env d r op = r.cache) →
      (step env s op).1.ds d = (s.ds d).map (stepRec env s d op) := by
    intro h hd hc
    rw [h, applyRegs_ds]
    cases s.ds d <;> simp only [Option.map_none, Option.map_some, stepRec, hd, hc, Option.getD_none]
  cases op with
  | newDs d0 disp dflt cb =>
    have hd : ¬ d = d0 := fun e => hnew disp dflt cb (e ▸ rfl)
    simp only [step, setDs_ds, if_neg hd]
    cases s.ds d <;> rfl
  | register d0 a i => exact regs rfl rfl fun _ => rfl
  | overload ts i =>
    refine regs ?_ rfl fun _ => rfl
    simp only [step, doOverload, opRegs]
    split <;> rfl
  | defineImpl ifs as pr =>
    refine regs ?_ rfl fun _ => rfl
    simp only [step, opRegs]
    rcases defineImpl_cases s ifs as pr with ⟨e, he⟩ | he <;> rw [he] <;> rfl
  | setDispatch _ _ | defineInterface _ _ _ | evaluate _ _ =>
    -- an edit of the record under a condition, `if` outside on the left and inside on the right
    simp only [step, setDisp, defIface_ds, evalDs_snd, modDs_ds]
    cases s.ds d with
    | none => simp only [Option.map_none, ite_self]
    | some r =>
      simp only [Option.map_some, stepRec, opDisp, opRegs, opCache]
      split <;> rfl

theorem evalDs_ifs (env : Env) (s : St) (d : DsId) (o : Opts) : (evalDs env s d o).2.ifs = s.ifs := by
  rw [evalDs_snd, modDs_ifs]

theorem step_ifs (env : Env) (s : St) (op : Op) (I : IfId)
    (h : ∀ disp ms, op ≠ .defineInterface I disp ms) : (step env s op).1.ifs I = s.ifs I := by
  cases op with
  | newDs _ _ _ _ => rfl
  | register _ _ _ | setDispatch _ _ => exact congrFun (modDs_ifs _ _ _) I
  | evaluate d o => exact congrFun (evalDs_ifs env s d o) I
  | overload ts i =>
    simp only [step, doOverload]
    split
    · rw [applyRegs_ifs]
    · rfl
  | defineImpl ifs as pr =>
    simp only [step]
    rcases defineImpl_cases s ifs as pr with ⟨e, he⟩ | he <;> rw [he]
    rw [applyRegs_ifs]
  | defineInterface I0 disp ms =>
    have hI : ¬ I = I0 := fun e => h disp ms (e ▸ rfl)
    simp only [step, defIface_ifs, if_neg hI]

theorem stored_step {env : Env} {s : St} {op : Op} {d : DsId} {r' : DsRec} {e : Fingerprint × V}
    (hr' : (step env s op).1.ds d = some r') (he : e ∈ r'.cache) :
    ∃ r, s.ds d = some r ∧ (e ∈ r.cache ∨
      ∃ o, fingerprint env r.toCfg o = .ok e.1 ∧ den env r.toCfg o = .ok e.2) := by
  by_cases hnew : ∃ disp dflt cb, op = .newDs d disp dflt cb
  · obtain ⟨disp, dflt, cb, rfl⟩ := hnew
    simp [step, setDs_ds] at hr'
    subst hr'
    cases he
  · rw [step_ds env s op d fun a b c e => hnew ⟨a, b, c, e⟩] at hr'
    obtain ⟨r, hr, rfl⟩ := Option.map_eq_some_iff.mp hr'
    refine ⟨r, hr, ?_⟩
    cases op with
    | evaluate d0 o =>
      simp only [stepRec, opCache] at he
      split at he
      · exact (mem_storeCold he).imp_right fun h => ⟨o, h⟩
      · exact .inl he
    | _ => exact .inl he

/-- The cache invariant.  `den` reads the tables, which registrations change while the cache
    stays, so an entry is the cold value of a configuration the dataset had at some point `h'`
    of the history, not of the one it has now. -/
theorem stored_run {env : Env} (h : List Op) (s : St) (d : DsId) (r : DsRec)
    (e : Fingerprint × V) (hr : (run env s h).ds d = some r) (he : e ∈ r.cache) :
    (∃ r0, s.ds d = some r0 ∧ e ∈ r0.cache) ∨
    ∃ h' r' o', h' <+: h ∧ (run env s h').ds d = some r' ∧
      fingerprint env r'.toCfg o' = .ok e.1 ∧ den env r'.toCfg o' = .ok e.2 := by
  fun_induction run env s h with
  | case1 s => exact .inl ⟨r, hr, he⟩
  | case2 s op h ih =>
    rcases ih hr with ⟨r1, hr1, he1⟩ | ⟨h', r', o', hpre, hr', hf, hd⟩
    · obtain ⟨r0, hr0, he0 | ⟨o, hf, hd⟩⟩ := stored_step hr1 he1
      · exact .inl ⟨r0, hr0, he0⟩
      · exact .inr ⟨[], r0, o, List.nil_prefix, hr0, hf, hd⟩
    · exact .inr ⟨op :: h', r', o', List.cons_prefix_cons.mpr ⟨rfl, hpre⟩, hr', hf, hd⟩

/-- the operation does not register, on dataset `d`, an alias Python-equal to `a`, and does not
    re-create `d` -/
def NoOverwrite (d : DsId) (a : Alias) : Op → Prop
  | .newDs d' _ _ _ => d' ≠ d
  | .register d' a' _ => d' = d → ¬ pyEq a' a
  | .overload ts _ => ∀ t ∈ ts, t.1 = d → ∀ a' ∈ t.2, ¬ pyEq a' a
  | .defineImpl _ as _ => ∀ a' ∈ as, ¬ pyEq a' a
  | _ => True

theorem NoOverwrite.opRegs {d : DsId} {a : Alias} {op : Op} (hno : NoOverwrite d a op) (s : St) :
    ∀ x ∈ opRegs s op, x.1 = d → ¬ pyEq x.2.1 a := by
  intro x hx hd
  cases op with
  | register d' a' i => cases List.mem_singleton.mp hx; exact hno hd
  | overload ts i =>
    simp only [Iface.opRegs] at hx
    split at hx
    · obtain ⟨t, ht, h1, h2, _⟩ := mem_overloadRegs hx
      exact hno t ht (h1 ▸ hd) _ h2
    · cases hx
  | defineImpl ifs as pr =>
    simp only [Iface.opRegs] at hx
    split at hx
    · obtain ⟨_, _, _, h⟩ := mem_implRegs.mp hx
      exact hno _ h
    · cases hx
  | _ => cases hx

theorem step_keeps_registration (env : Env) (s : St) (op : Op) (d : DsId) (a : Alias) (i : ImplId)
    (r : DsRec) (hno : NoOverwrite d a op) (hr : s.ds d = some r)
    (hl : tlookup a r.table = some i) :
    ∃ r', (step env s op).1.ds d = some r' ∧ tlookup a r'.table = some i := by
  refine ⟨stepRec env s d op r, ?_, (regsTable_keep d a _ (hno.opRegs s) _).trans hl⟩
  rw [step_ds env s op d fun _ _ _ e => by subst e; exact hno rfl, hr]
  rfl

def NoOverwriteAll (d : DsId) (a : Alias) (h : List Op) : Prop := ∀ op ∈ h, NoOverwrite d a op

theorem run_keeps_registration (env : Env) (h : List Op) (s : St) (d : DsId) (a : Alias)
    (i : ImplId) (r : DsRec) (hno : NoOverwriteAll d a h) (hr : s.ds d = some r)
    (hl : tlookup a r.table = some i) :
    ∃ r', (run env s h).ds d = some r' ∧ tlookup a r'.table = some i := by
  fun_induction run env s h generalizing r with
  | case1 s => exact ⟨r, hr, hl⟩
  | case2 s op h ih =>
    obtain ⟨r1, hr1, hl1⟩ :=
      step_keeps_registration env s op d a i r (hno op List.mem_cons_self) hr hl
    exact ih r1 (fun op' h' => hno op' (List.mem_cons_of_mem _ h')) hr1 hl1

/-- The dispatch is a deterministic function of the options it reports as its keys, and reports
    no keys when it cannot be evaluated. -/
structure DispDet (env : Env) (disp : Dispatch) : Prop where
  det : ∀ o o' : Opts,
    (∀ ks, disp.keys env o = .ok ks → ∀ k ∈ ks, alookup k o' = alookup k o) →
    (∀ ks', disp.keys env o' = .ok ks' → ∀ k ∈ ks', alookup k o = alookup k o') →
    disp.eval env o' = disp.eval env o
  keys_fail : ∀ o e, disp.eval env o = .error e → ∃ e', disp.keys env o = .error e'

theorem dispDet_missing (env : Env) : DispDet env .missing :=
  ⟨fun _ _ _ _ => rfl, fun o e h => by simp [Dispatch.eval] at h⟩

theorem dispDet_of_key {env : Env} {disp : Dispatch} {k : String}
    (hk : ∀ o v, alookup k o = some v → disp.keys env o = .ok [k])
    (he : ∀ o o', alookup k o' = alookup k o → disp.eval env o' = disp.eval env o)
    (hf : ∀ o e, disp.eval env o = .error e → ∃ e', disp.keys env o = .error e') :
    DispDet env disp := by
  refine ⟨fun o o' h1 h2 => he o o' ?_, hf⟩
  -- each dictionary has under `k` what the other has there, if anything
  cases ho : alookup k o with
  | some v => exact (h1 [k] (hk o v ho) k List.mem_cons_self).trans ho
  | none =>
    cases ho' : alookup k o' with
    | none => rfl
    | some v' => rw [h2 [k] (hk o' v' ho') k List.mem_cons_self, ho'] at ho; cases ho

theorem dispDet_key (env : Env) (k : String) : DispDet env (.key k) := by
  refine dispDet_of_key (k := k) (fun o v hv => by simp only [Dispatch.keys, hv])
    (fun o o' h => by simp only [Dispatch.eval, h]) fun o e h => ?_
  simp only [Dispatch.eval] at h
  cases ho : alookup k o with
  | some v => simp [ho] at h
  | none => exact ⟨.keyNotFound k, by simp only [Dispatch.keys, ho]⟩

theorem dispDet_keyDefault (env : Env) (k : String) (v : V) : DispDet env (.keyDefault k v) := by
  refine dispDet_of_key (k := k) (fun o v hv => by simp only [Dispatch.keys, hv])
    (fun o o' h => by simp only [Dispatch.eval, h]) fun o e h => ?_
  simp only [Dispatch.eval] at h
  cases ho : alookup k o <;> simp [ho] at h

theorem fingerprint_dispatch_keys {env : Env} {c : Cfg} {o : Opts} {fp : Fingerprint}
    (hdet : DispDet env c.dispatch) (h : fingerprint env c o = .ok fp) :
    ∃ ks, fp = fpOf ks o ∧ ∀ dk, c.dispatch.keys env o = .ok dk → ∀ k ∈ dk, k ∈ ks := by
  obtain ⟨ch, ks, hs, hk, rfl⟩ := fingerprint_ok h
  refine ⟨ks, rfl, fun dk hdk k hkm => ?_⟩
  have hwd : ∀ i, withDispatchKeys env c o i = .ok ks → k ∈ ks := by
    intro i hw
    unfold withDispatchKeys at hw
    cases hik : env.implKeys i o with
    | error e => simp [hik] at hw
    | ok ik =>
      simp only [hik, hdk] at hw
      cases hw
      exact List.mem_append_right _ hkm
  rcases select_ok hs with ⟨e, i, he, _, rfl⟩ | ⟨_, _, i, _, _, ⟨_, rfl⟩ | ⟨_, _, rfl⟩⟩
  · -- the dispatch failed, so it reports no keys
    obtain ⟨e', he'⟩ := hdet.keys_fail o e he
    rw [he'] at hdk; cases hdk
  · exact hwd i hk
  · exact hwd i hk

theorem fp_eq_same_dispatch {env : Env} {c c' : Cfg} {o o' : Opts} {fp : Fingerprint}
    (hd : c'.dispatch = c.dispatch) (hdet : DispDet env c.dispatch)
    (h : fingerprint env c o = .ok fp) (h' : fingerprint env c' o' = .ok fp) :
    c'.dispatch.eval env o' = c.dispatch.eval env o := by
  obtain ⟨ks, hfp, hks⟩ := fingerprint_dispatch_keys hdet h
  obtain ⟨ks', hfp', hks'⟩ := fingerprint_dispatch_keys (hd ▸ hdet) h'
  have heq : fpOf ks o = fpOf ks' o' := by rw [← hfp, ← hfp']
  rw [hd] at hks' ⊢
  exact hdet.det o o'
    (fun dk hdk k hk => (fpOf_eq_agree heq (hks dk hdk k hk)).2.symm)
    (fun dk hdk k hk => (fpOf_eq_agree heq.symm (hks' dk hdk k hk)).2.symm)

def MemberOf (s : St) (d : DsId) : Prop :=
  ∃ I ir n, s.ifs I = some ir ∧ (n, d) ∈ ir.members

def IfaceOK (s : St) : Prop :=
  ∀ I ir, s.ifs I = some ir → ∀ m ∈ ir.members, ∃ r, s.ds m.2 = some r ∧ r.dispatch = ir.dispatch

/-- the operation does not take an interface member's dispatch away -/
def OpOK (s : St) : Op → Prop
  | .newDs d _ _ _ => ¬ MemberOf s d
  | .setDispatch d _ => ¬ MemberOf s d
  | .defineInterface I _ ms =>
    s.ifs I = Option.none ∧ ∀ m ∈ ms, (∃ r, s.ds m.2 = some r) ∧ ¬ MemberOf s m.2
  | _ => True

def HistOK (env : Env) : St → List Op → Prop
  | _, [] => True
  | s, op :: h => OpOK s op ∧ HistOK env (step env s op).1 h

theorem step_keeps_member {env : Env} {s : St} {op : Op} (hok : OpOK s op) {d : DsId}
    (hm : MemberOf s d) {r : DsRec} (hr : s.ds d = some r) :
    ∃ r', (step env s op).1.ds d = some r' ∧ r'.dispatch = r.dispatch := by
  have hd : opDisp d op = Option.none := by
    cases op with
    | setDispatch d0 disp => exact if_neg fun (e : d = d0) => hok (e ▸ hm)
    | defineInterface I disp ms =>
      refine if_neg fun hany => ?_
      obtain ⟨m, hmem, he⟩ := List.any_eq_true.mp hany
      exact (hok.2 m hmem).2 (of_decide_eq_true he ▸ hm)
    | _ => rfl
  refine ⟨stepRec env s d op r, ?_, by simp only [stepRec, hd, Option.getD_none]⟩
  rw [step_ds env s op d fun _ _ _ e => by subst e; exact hok hm, hr]
  rfl

theorem ifaceOK_step {env : Env} {s : St} (hs : IfaceOK s) (op : Op) (hok : OpOK s op) :
    IfaceOK (step env s op).1 := by
  intro I ir hir m hm
  by_cases hnew : ∃ disp ms, op = .defineInterface I disp ms
  · -- the interface just defined: `defIface` has set the dispatch of every member
    obtain ⟨disp, ms, rfl⟩ := hnew
    simp only [step, defIface_ifs, if_true] at hir
    cases hir
    obtain ⟨⟨r, hr⟩, _⟩ := hok.2 m hm
    have : (ms.any fun m' => decide (m'.2 = m.2)) = true := List.any_eq_true.mpr ⟨m, hm, by simp⟩
    exact ⟨_, by simp only [step, defIface_ds, hr, this]; rfl, rfl⟩
  · rw [step_ifs env s op I fun disp ms e => hnew ⟨disp, ms, e⟩] at hir
    obtain ⟨r, hr, hd⟩ := hs I ir hir m hm
    obtain ⟨r', hr', hd'⟩ := step_keeps_member (env := env) hok ⟨I, ir, m.1, hir, hm⟩ hr
    exact ⟨r', hr', hd'.trans hd⟩

theorem ifaceOK_run {env : Env} (h : List Op) (s : St) (hs : IfaceOK s) (hok : HistOK env s h) :
    IfaceOK (run env s h) := by
  fun_induction run env s h with
  | case1 s => exact hs
  | case2 s op h ih => exact ih (ifaceOK_step hs op hok.1) hok.2

theorem ifaceOK_init : IfaceOK St.init := by
  intro I ir h; simp [St.init] at h

end Labrea.Iface
