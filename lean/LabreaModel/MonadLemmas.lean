/-
  How the evaluation monad `M` computes on a given state: `>>=`, `handle` and the primitives forwards (`bind_run`,
  `bind_of_ok` …) and backwards (`bind_eq_ok`, `handle_eq_ok`: what a successful run must have been), the dotted-key
  reads, `Option` at the leaves, and the request wrapper of `ev`.  Used by the per-combinator semantic equations and
  by every logic over `M`.
-/
import LabreaModel.Eval
namespace Labrea

/-! The state equations are `simp` lemmas: with them a proof about an operation reads
  `simp [the operation, what its children do]`. -/

@[simp] theorem bind_run {α β} (m : M α) (f : α → M β) (s : St) :
    (m >>= f) s = match m s with
      | Option.none => Option.none
      | some (.error e, s') => some (.error e, s')
      | some (.ok a, s') => f a s' := rfl

@[simp] theorem handle_run {α} (m : M α) (k : Err → M α) (s : St) :
    handle m k s = match m s with
      | some (.error e, s') => k e s'
      | r => r := rfl

@[simp] theorem M.pure_bind {α β} (a : α) (f : α → M β) : (pure a >>= f) = f a := rfl

theorem bind_of_ok {α β} {m : M α} {f : α → M β} {s s1 : St} {a : α} (h : m s = some (.ok a, s1)) :
    (m >>= f) s = f a s1 := by simp [h]

theorem bind_of_err {α β} {m : M α} {f : α → M β} {s s1 : St} {e : Err} (h : m s = some (.error e, s1)) :
    (m >>= f) s = some (.error e, s1) := by simp [h]

theorem bind_of_none {α β} {m : M α} {f : α → M β} {s : St} (h : m s = Option.none) :
    (m >>= f) s = Option.none := by simp [h]

theorem handle_of_ok {α} {m : M α} {k : Err → M α} {s s1 : St} {a : α} (h : m s = some (.ok a, s1)) :
    handle m k s = some (.ok a, s1) := by simp [h]

theorem handle_of_err {α} {m : M α} {k : Err → M α} {s s1 : St} {e : Err} (h : m s = some (.error e, s1)) :
    handle m k s = k e s1 := by simp [h]

theorem handle_of_none {α} {m : M α} {k : Err → M α} {s : St} (h : m s = Option.none) :
    handle m k s = Option.none := by simp [h]

@[simp] theorem pure_run {α} (a : α) (s : St) : (pure a : M α) s = some (.ok a, s) := rfl
@[simp] theorem raise_run {α} (e : Err) (s : St) : (raise e : M α) s = some (.error e, s) := rfl
@[simp] theorem emit_run (ev : Event) (s : St) : emit ev s = some (.ok (), { s with events := ev :: s.events }) := rfl
@[simp] theorem getSt_run (s : St) : getSt s = some (.ok s, s) := rfl
@[simp] theorem modifySt_run (f : St → St) (s : St) : modifySt f s = some (.ok (), f s) := rfl
@[simp] theorem outOfFuel_run {α} (s : St) : (outOfFuel : M α) s = Option.none := rfl

theorem bind_eq_ok {α β} {m : M α} {f : α → M β} {s s' : St} {b : β} :
    (m >>= f) s = some (.ok b, s') ↔ ∃ a s1, m s = some (.ok a, s1) ∧ f a s1 = some (.ok b, s') := by
  rw [bind_run]
  split <;> simp_all
  exact ⟨fun h => ⟨_, _, ⟨rfl, rfl⟩, h⟩, fun ⟨_, _, ⟨ha, hs⟩, h⟩ => ha ▸ hs ▸ h⟩

theorem handle_eq_ok {α} {m : M α} {k : Err → M α} {s s' : St} {a : α} :
    handle m k s = some (.ok a, s') ↔ m s = some (.ok a, s') ∨ ∃ e s1, m s = some (.error e, s1) ∧ k e s1 = some (.ok a, s') := by
  unfold handle
  split <;> simp_all
  exact ⟨fun h => ⟨_, _, ⟨rfl, rfl⟩, h⟩, fun ⟨_, _, ⟨he, hs⟩, h⟩ => he ▸ hs ▸ h⟩

theorem handle_eq_err {α} {m : M α} {k : Err → M α} {s s' : St} {e : Err} (h : handle m k s = some (.error e, s')) :
    ∃ e0 s0, m s = some (.error e0, s0) ∧ k e0 s0 = some (.error e, s') := by
  unfold handle at h
  split at h
  · exact ⟨_, _, ‹_›, h⟩
  · exact absurd h (‹∀ e s', m s = some (.error e, s') → False› e s')

theorem pure_eq_ok {α} {a b : α} {s s' : St} : (pure a : M α) s = some (.ok b, s') ↔ a = b ∧ s = s' := by
  simp

/-- `try m except CacheGetFailure: d`: the read-back of `setReq`, the retrieval of `cacheLookup` -/
theorem handle_miss_eq_ok {α} {m : M α} {d a : α} {s s' : St} :
    handle m (fun err => if err = cacheGetFailure then pure d else raise err) s = some (.ok a, s') ↔
      m s = some (.ok a, s') ∨ (m s = some (.error cacheGetFailure, s') ∧ a = d) := by
  rw [handle_eq_ok]
  refine or_congr_right ⟨?_, fun ⟨h, ha⟩ => ⟨_, _, h, by simp [ha]⟩⟩
  rintro ⟨e, s1, hm, hk⟩
  by_cases he : e = cacheGetFailure
  · simp only [he, if_true, pure_eq_ok] at hk
    exact ⟨hk.2 ▸ he ▸ hm, hk.1.symm⟩
  · simp [he] at hk

@[simp] theorem emitAll_run : ∀ (evs : List Event) (s : St),
    emitAll evs s = some (.ok (), { s with events := evs.reverse ++ s.events })
  | [], s => by simp [emitAll]
  | e :: es, s => by
    simp only [emitAll, bind_run, emit_run]
    rw [emitAll_run es]
    simp [List.reverse_cons, List.append_assoc]

@[simp] theorem readKey_run (k : String) (o : V) (s : St) :
    readKey k o s = some (.ok (getDotted k o), { s with events := .read k :: s.events }) := rfl

theorem getKey_eq_ok {k : String} {o v : V} {s s' : St} :
    getKey k o s = some (.ok v, s') ↔ getDotted k o = .found v ∧ s' = { s with events := .read k :: s.events } := by
  cases hg : getDotted k o <;> simp [getKey, hg, eq_comm]

theorem existsKey_eq_ok {k : String} {o : V} {b : Bool} {s s' : St} :
    existsKey k o s = some (.ok b, s') ↔
      (if b then ∃ v, getDotted k o = .found v else getDotted k o = .keyErr) ∧
        s' = { s with events := .read k :: s.events } := by
  cases hg : getDotted k o <;> cases b <;> simp [existsKey, hg, eq_comm]

theorem existsKey_found {key : String} {o raw : V} (h : getDotted key o = .found raw) (s : St) :
    existsKey key o s = some (.ok true, { s with events := .read key :: s.events }) :=
  existsKey_eq_ok.mpr ⟨⟨raw, h⟩, rfl⟩

theorem existsKey_keyErr {key : String} {o : V} (h : getDotted key o = .keyErr) (s : St) :
    existsKey key o s = some (.ok false, { s with events := .read key :: s.events }) :=
  existsKey_eq_ok.mpr ⟨h, rfl⟩

theorem getKey_found {key : String} {o raw : V} (h : getDotted key o = .found raw) (s : St) :
    getKey key o s = some (.ok raw, { s with events := .read key :: s.events }) :=
  getKey_eq_ok.mpr ⟨h, rfl⟩

theorem unionV_nil_left (xs : List V) : unionV (.set []) (.set xs) = .set xs := by
  simp [unionV, unionKeys, V.setElems, pyMem]

theorem unionV_nil_right (xs : List V) : unionV (.set xs) (.set []) = .set xs := by
  simp [unionV, unionKeys, V.setElems]

theorem unionV_keySet_nil (ks : List String) : unionV (keySet ks) (.set []) = keySet ks := unionV_nil_right _

theorem optionOp_absent_none (env : Env) (run : Run) (n id : Nat) (key : String) (o : V) (self : Expr) (op : Op)
    (hop : op ≠ .explain) (s : St) (hk : getDotted key o = .keyErr) :
    optionOp env run n self id key Option.none Option.none op o s =
      some (.error [keyNotFound id key], { s with events := .read key :: s.events }) := by
  cases op <;> first | exact absurd rfl hop | simp [optionOp, existsKey_keyErr hk, hk]

/-- two reads: `dotted_key_exists`, then `get_dotted_key` -/
theorem optionOp_keys_present_plain (env : Env) (run : Run) (n id : Nat) (key : String) (o : V) (self : Expr)
    (dflt : Option Expr) (op : Op) (hop : op = .keys ∨ op = .explain) (raw : V)
    (s : St) (hk : getDotted key o = .found raw) (hplain : templatedStrings raw = []) :
    optionOp env run n self id key dflt Option.none op o s =
      some (.ok (keySet [key]), { s with events := .read key :: .read key :: s.events }) := by
  rcases hop with rfl | rfl <;>
    simp [optionOp, existsKey_found hk, getKey_found hk, hplain, mapM', unionAll, keySet, unionV_nil_right]

def evBody (env : Env) (n : Nat) (op : Op) (e : Expr) (o : V) : M V :=
  match op with
  | .evaluate =>
    match env.subst with
    | some (sid, v) =>
      if sid == e.id && sid != 0 then pure v else wrapEvaluate e.id (nodeOp env (ev env n) n op e o)
    | Option.none => wrapEvaluate e.id (nodeOp env (ev env n) n op e o)
  | _ => nodeOp env (ev env n) n op e o

theorem ev_succ (env : Env) (n : Nat) (op : Op) (e : Expr) (o : V) :
    ev env (n + 1) op e o = (emit (.req op.name e.id) >>= fun _ => evBody env n op e o) := by
  cases op <;> rfl

theorem ev_succ_run (env : Env) (n : Nat) (op : Op) (e : Expr) (o : V) (s : St) :
    ev env (n + 1) op e o s = evBody env n op e o { s with events := .req op.name e.id :: s.events } := by
  rw [ev_succ]; rfl

end Labrea
