/-
  Store-free computations: `U m r` = "from EVERY state, `m` terminates with outcome `r` and leaves caches and fault
  scripts alone" (it may append events).  Closed under the monad operations; the leaves (a value, an option that is
  present / absent, the library's switch options) under the real interpreter; one lemma per node kind that a dataset's
  composition uses, given the same fact about the children.  Used for the option spellings of the feature switches
  (C16) and to discharge the hypotheses of `FingerprintSound` (CacheTransparency.lean) for concrete families (C01).
-/
import LabreaModel.CacheLemmas
import LabreaModel.EvalLemmas
namespace Labrea

structure U {α} (m : M α) (r : Except Err α) : Prop where
  run : ∀ s, ∃ s', m s = some (r, s') ∧ SameCS s s'

theorem U.E {α} {m : M α} {r} (h : U m r) (c : Nat) (s : St) : ∃ s', m s = some (r, s') ∧ s'.E c = s.E c := by
  obtain ⟨s', h1, h2⟩ := h.run s
  exact ⟨s', h1, E_of_caches h2.1 c⟩

theorem U.exists {α} {m : M α} {r} (h : U m r) (s : St) : ∃ s', m s = some (r, s') := (h.run s).imp fun _ h => h.1

theorem u_of_events {α} {m : M α} {r} (h : ∀ s, ∃ l, m s = some (r, { s with events := l ++ s.events })) : U m r :=
  ⟨fun s => (h s).elim fun _ h => ⟨_, h, rfl, rfl⟩⟩

theorem u_pure {α} (a : α) : U (pure a : M α) (.ok a) := u_of_events fun _ => ⟨[], rfl⟩

theorem u_raise {α} (e : Err) : U (raise e : M α) (.error e) := u_of_events fun _ => ⟨[], rfl⟩

theorem u_emit (e : Event) : U (emit e) (.ok ()) := u_of_events fun _ => ⟨[e], rfl⟩

theorem u_bind {α β} {m : M α} {f : α → M β} {a : α} {r : Except Err β} (hm : U m (.ok a)) (hf : U (f a) r) :
    U (m >>= f) r := by
  refine ⟨fun s => ?_⟩
  obtain ⟨s1, h1, c1⟩ := hm.run s
  obtain ⟨s2, h2, c2⟩ := hf.run s1
  exact ⟨s2, by rw [bind_of_ok h1, h2], sameCS_rel.trans c1 c2⟩

theorem u_handle_ok {α} {m : M α} {k : Err → M α} {a : α} (hm : U m (.ok a)) : U (handle m k) (.ok a) := by
  refine ⟨fun s => ?_⟩
  obtain ⟨s1, h1, c1⟩ := hm.run s
  exact ⟨s1, handle_of_ok h1, c1⟩

theorem u_emitAll : ∀ evs : List Event, U (emitAll evs) (.ok ())
  | [] => u_pure ()
  | e :: es => u_bind (u_emit e) (u_emitAll es)

theorem u_congr {α} {m m' : M α} {r} (h : m = m') (hm : U m' r) : U m r := h ▸ hm

theorem u_mapM' {α β} {f : α → M β} {g : α → β} : ∀ xs : List α, (∀ x ∈ xs, U (f x) (.ok (g x))) →
    U (mapM' f xs) (.ok (xs.map g))
  | [], _ => u_pure []
  | x :: xs, h => u_bind (h x (by simp)) (u_bind (u_mapM' xs fun y hy => h y (by simp [hy])) (u_pure _))

theorem u_pseudo_evaluate_ok {α} {pid : Nat} {m : M α} {a : α} (hm : U m (.ok a)) : U (pseudo .evaluate pid m) (.ok a) :=
  u_bind (u_emit _) (u_handle_ok hm)

theorem u_pseudo_keys {α} {pid : Nat} {m : M α} {r : Except Err α} (hm : U m r) : U (pseudo .keys pid m) r :=
  u_bind (u_emit _) hm

theorem u_call {env : Env} {f : V} {a : List V} {k : List (String × V)} {w : V} {evs : List Event}
    (h : callV env.β f a k = (.ok w, evs)) : U (call env f a k) (.ok w) := by
  unfold call
  simp only [h]
  exact u_bind (u_emitAll evs) (u_pure w)

theorem u_ev_evaluate {env : Env} (hsub : env.subst = Option.none) {n : Nat} {e : Expr} {o v : V}
    (h : U (nodeOp env (ev env n) n .evaluate e o) (.ok v)) : U (ev env (n + 1) .evaluate e o) (.ok v) := by
  rw [ev_succ]
  simp only [evBody, hsub]
  exact u_bind (u_emit _) (u_handle_ok h)

theorem u_ev_keys {env : Env} {n : Nat} {e : Expr} {o : V} {r : Except Err V}
    (h : U (nodeOp env (ev env n) n .keys e o) r) : U (ev env (n + 1) .keys e o) r :=
  ev_succ .. ▸ u_bind (u_emit _) h

section
variable {env : Env} {run : Run} {n : Nat} {o : V}

theorem u_readKey {key : String} : U (readKey key o) (.ok (getDotted key o)) := u_bind (u_emit _) (u_pure _)

theorem u_resolveM {id : Nat} {x v : V} {b : Bool} {rd : List String} (h : resolveR n x o = some (.ok v, rd)) :
    U (resolveM n id x o b) (.ok v) := by
  simp only [resolveM, h]
  exact u_bind (u_emitAll _) (u_pure v)

theorem u_option_present {id : Nat} {key : String} {dflt : Option Expr} {raw v : V} {rd : List String}
    (h : getDotted key o = .found raw) (hr : resolveR n raw o = some (.ok v, rd)) :
    U (nodeOp env run n .evaluate (.option id key dflt Option.none) o) (.ok v) := by
  simp only [nodeOp, optionOp]
  refine u_bind (a := v) (u_bind u_readKey ?_) (u_bind (u_emit _) (u_bind (u_pure ()) (u_pure _)))
  simp only [h]
  exact u_resolveM hr

theorem u_option_default {id : Nat} {key : String} {d : Expr} {v : V} (h : getDotted key o = .keyErr)
    (hd : U (run .evaluate d o) (.ok v)) :
    U (nodeOp env run n .evaluate (.option id key (some d) Option.none) o) (.ok v) := by
  simp only [nodeOp, optionOp]
  refine u_bind (a := v) (u_bind u_readKey ?_) (u_bind (u_emit _) (u_bind (u_pure ()) (u_pure v)))
  simp only [h]; exact hd

theorem u_option_keys {id : Nat} {key : String} {dflt : Option Expr} {raw : V}
    (h : getDotted key o = .found raw) (hplain : templatedStrings raw = []) :
    U (nodeOp env run n .keys (.option id key dflt Option.none) o) (.ok (keySet [key])) :=
  u_of_events fun s => ⟨[.read key, .read key], optionOp_keys_present_plain env run n id key o (.option id key dflt Option.none) dflt .keys (.inl rfl) raw s h hplain⟩

theorem ev_value_keys {id : Nat} {v : V} : U (ev env (n + 1) .keys (.value id v) o) (.ok (.set [])) :=
  u_ev_keys (u_pure _)

theorem ev_option_keys {id : Nat} {key : String} {dflt : Option Expr} {raw : V} (h : getDotted key o = .found raw)
    (hplain : templatedStrings raw = []) :
    U (ev env (n + 1) .keys (.option id key dflt Option.none) o) (.ok (keySet [key])) :=
  u_ev_keys (u_option_keys h hplain)

theorem u_fingerprint_single {x : Expr} {ks v : V} {key : String} (hks : U (run .keys x o) (.ok ks))
    (hstr : keyStrings ks = [key]) (hv : getDotted key o = .found v) :
    U (fingerprintOf run x o) (.ok (.list [.dict [(key, v)]])) := by
  unfold fingerprintOf
  refine u_bind hks ?_
  simp only [hstr, sortStrings, List.foldr_cons, List.foldr_nil, insertSorted, fpItems]
  exact u_bind (u_bind (u_of_events fun s => ⟨[.read key], getKey_found hv s⟩) (u_bind (u_pure []) (u_pure _))) (u_pure _)

variable (hsub : env.subst = Option.none)
include hsub

theorem ev_value {id : Nat} {v : V} : U (ev env (n + 1) .evaluate (.value id v) o) (.ok v) :=
  u_ev_evaluate hsub (u_pure v)

theorem ev_option_present {id : Nat} {key : String} {dflt : Option Expr} {raw v : V} {rd : List String}
    (h : getDotted key o = .found raw) (hr : resolveR n raw o = some (.ok v, rd)) :
    U (ev env (n + 1) .evaluate (.option id key dflt Option.none) o) (.ok v) :=
  u_ev_evaluate hsub (u_option_present h hr)

theorem ev_option_default {id : Nat} {key : String} {d : Expr} {v : V} (h : getDotted key o = .keyErr)
    (hd : U (ev env n .evaluate d o) (.ok v)) :
    U (ev env (n + 1) .evaluate (.option id key (some d) Option.none) o) (.ok v) :=
  u_ev_evaluate hsub (u_option_default h hd)

theorem ev_switch_option {id1 id2 : Nat} {k : String} (hk : getDotted k o = .keyErr) :
    U (ev env (n + 2) .evaluate (optFalse id1 k (.value id2 (.bool false))) o) (.ok (.bool false)) :=
  ev_option_default hsub hk (ev_value hsub)

omit hsub in
theorem u_cacheDisabled_of {v : V} (hon : env.cacheCtxOff = false) (h : U (run .evaluate cacheDisabledOption o) (.ok v)) :
    U (cacheDisabled env run o) (.ok v.truthy) := by
  simp only [cacheDisabled, hon, Bool.false_eq_true, if_false]
  exact u_bind h (u_pure _)

theorem u_cacheDisabled (hon : env.cacheCtxOff = false) (c1 : getDotted "LABREA.CACHE.DISABLED" o = .keyErr)
    (c2 : getDotted "LABREA.CACHE.DISABLE" o = .keyErr) : U (cacheDisabled env (ev env (n + 3)) o) (.ok false) :=
  u_cacheDisabled_of hon (ev_option_default hsub c1 (ev_switch_option hsub c2))

end

section
variable {env : Env} {run : Run} {n : Nat} {o : V}

theorem u_logged {id : Nat} {x : Expr} {msg : String} {sw : V} {r : Except Err V} (hctx : env.logCtxOff = false)
    (hsw : U (run .evaluate loggingDisabledOption o) (.ok sw)) (hx : U (run .evaluate x o) r) :
    U (nodeOp env run n .evaluate (.logged id x msg) o) r := by
  simp only [nodeOp, hctx, Bool.false_eq_true, if_false]
  exact u_bind (u_emit _) (u_bind hsw (u_bind (u_emit _) hx))

theorem u_logged_keys {id : Nat} {x : Expr} {msg : String} {r : Except Err V} (hx : U (run .keys x o) r) :
    U (nodeOp env run n .keys (.logged id x msg) o) r := hx

theorem u_computation_noeffects {id : Nat} {x : Expr} {v sw : V} (hx : U (run .evaluate x o) (.ok v))
    (hsw : U (run .evaluate effectsDisabledOption o) (.ok sw)) :
    U (nodeOp env run n .evaluate (.computation id x []) o) (.ok v) := by
  simp only [nodeOp, computationOp]
  refine u_bind hx (u_bind (u_bind hsw (u_pure _)) ?_)
  split
  · exact u_pure v
  · exact u_bind (u_pure ()) (u_pure v)

theorem u_computation_keys {id : Nat} {x : Expr} {effects : List Expr} {r : Except Err V} (hx : U (run .keys x o) r) :
    U (nodeOp env run n .keys (.computation id x effects) o) r := hx

theorem u_apply {id : Nat} {x f : Expr} {v fn w : V} {evs : List Event}
    (hnotiter : ∀ i es, x ≠ .iter i es) (hnotmap : ∀ i y its, x ≠ .map i y its)
    (hx : U (run .evaluate x o) (.ok v)) (hf : U (run .evaluate f o) (.ok fn))
    (hc : callV env.β fn [v] [] = (.ok w, evs)) :
    U (nodeOp env run n .evaluate (.apply id x f) o) (.ok w) := by
  -- the equation of `nodeOp` for the third alternative asks for exactly `hnotiter` and `hnotmap`
  simp only [nodeOp]
  exact u_bind hx (u_bind hf (u_call hc))

theorem u_apply_keys {id : Nat} {x f : Expr} {a b : V} (hx : U (run .keys x o) (.ok a)) (hf : U (run .keys f o) (.ok b)) :
    U (nodeOp env run n .keys (.apply id x f) o) (.ok (unionV a b)) :=
  u_bind hx (u_bind hf (u_pure _))

theorem u_overloaded {op : Op} {id ov : Nat} {r : Except Err V}
    (h : U (run op (.switch (tid id 1) (env.ov ov).dispatch (env.ov ov).table (env.ov ov).dflt) o) r) :
    U (nodeOp env run n op (.overloaded id ov) o) r := h

theorem u_switch_default {op : Op} (hop : op ≠ .explain) {id : Nat} {d : Expr} {lookup : List (V × Expr)} {df : Expr}
    {key : V} {r : Except Err V} (hd : U (run .evaluate d o) (.ok key)) (hh : hashable key = true)
    (hnone : lookup.find? (fun p => pyEq p.1 key) = Option.none)
    (hdf : U (run op (.dependsOn (tid id 1) df d) o) r) :
    U (nodeOp env run n op (.switch id d lookup (some df)) o) r := by
  have hl : U (switchLookup run id d lookup (some df) o) (.ok (.dependsOn (tid id 1) df d)) := by
    unfold switchLookup
    refine u_bind (u_handle_ok (u_bind hd (u_pure (Sum.inl key)))) ?_
    simp only [hh, Bool.not_true, Bool.false_eq_true, if_false, hnone]
    exact u_pure _
  cases op <;> simp only [nodeOp, switchOp] <;> first | exact u_bind hl hdf | exact absurd rfl hop

theorem u_dependsOn_evaluate {id : Nat} {x d : Expr} {r : Except Err V} (hx : U (run .evaluate x o) r) :
    U (nodeOp env run n .evaluate (.dependsOn id x d) o) r := hx

theorem u_dependsOn_keys {id : Nat} {x d : Expr} {a b : V} (hx : U (run .keys x o) (.ok a)) (hd : U (run .keys d o) (.ok b)) :
    U (nodeOp env run n .keys (.dependsOn id x d) o) (.ok (unionV a b)) :=
  u_bind hx (u_bind hd (u_pure _))

theorem u_funApp {id : Nat} {f : Expr} {args : List Expr} {kw : List (String × Expr)} {fv : V}
    {av : Expr → V} {kv : String × Expr → V} {w : V} {evs : List Event}
    (hf : U (run .evaluate f o) (.ok fv)) (ha : ∀ x ∈ args, U (run .evaluate x o) (.ok (av x)))
    (hk : ∀ p ∈ kw, U (run .evaluate p.2 o) (.ok (kv p)))
    (hc : callV env.β fv (args.map av) (kw.map fun p => (p.1, kv p)) = (.ok w, evs)) :
    U (nodeOp env run n .evaluate (.funApp id f args kw) o) (.ok w) := by
  simp only [nodeOp, applicationOp, Bool.false_eq_true, if_false]
  refine u_bind hf (u_bind (a := (args.map av, kw.map fun p => (p.1, kv p))) ?_ (u_call hc))
  exact u_pseudo_evaluate_ok (u_bind (u_pseudo_evaluate_ok (u_mapM' args ha))
    (u_bind (u_pseudo_evaluate_ok (u_mapM' (g := fun p => (p.1, kv p)) kw fun p hp => u_bind (hk p hp) (u_pure _))) (u_pure _)))

theorem u_funApp_keys {id : Nat} {f : Expr} {args : List Expr} {kw : List (String × Expr)} {fk : V}
    {ak : Expr → V} (hf : U (run .keys f o) (.ok fk)) (ha : ∀ x ∈ args, U (run .keys x o) (.ok (ak x)))
    (hk : ∀ x ∈ kw.map Prod.snd, U (run .keys x o) (.ok (ak x))) :
    U (nodeOp env run n .keys (.funApp id f args kw) o)
      (.ok (unionV fk (unionV (unionAll (args.map ak)) (unionAll ((kw.map Prod.snd).map ak))))) := by
  simp only [nodeOp, applicationOp, unionOver]
  exact u_bind hf (u_bind (u_pseudo_keys (u_bind (u_pseudo_keys (u_bind (u_mapM' args ha) (u_pure _)))
    (u_bind (u_pseudo_keys (u_bind (u_mapM' _ hk) (u_pure _))) (u_pure _)))) (u_pure _))

theorem u_pipeline_single {id : Nat} {tail : Expr} {t : V} (ht : U (run .evaluate tail o) (.ok t)) :
    U (nodeOp env run n .evaluate (.pipeline id tail Option.none) o) (.ok (.comp [t])) :=
  u_bind ht (u_pure _)

theorem u_pipeline_single_keys {id : Nat} {tail : Expr} {a : V} (ht : U (run .keys tail o) (.ok a)) :
    U (nodeOp env run n .keys (.pipeline id tail Option.none) o) (.ok a) :=
  u_bind ht (u_pure a)

theorem u_pipelineStep {op : Op} {id : Nat} {step : Expr} {r : Except Err V} (h : U (run op step o) r) :
    U (nodeOp env run n op (.pipelineStep id step) o) r := h

end
end Labrea
