/-
  Algebra of `mix` (confectioner's recursive merge), `walk` (dotted lookup) and `setPath`.
  `mixVal old v` (the merge of one entry) is the recursive core: `mix a b` is `mixVal (some a) b`
  when `b` is a section and `a` otherwise, so the facts are proved about `mixVal` and read off for `mix`.
-/
import LabreaModel.Dotted
namespace Labrea

theorem mixObj_nil (d : List (String × V)) : mixObj d [] = d := by simp [mixObj, mixObjAux]

theorem mixObj_singleton (d : List (String × V)) (k : String) (v : V) :
    mixObj d [(k, v)] = ainsert k (mixVal (alookup k d) v) d := by simp [mixObj, mixObjAux]

theorem alookup_eq_none_of_not_mem {α} {k : String} : ∀ {l : List (String × α)}, k ∉ akeys l → alookup k l = Option.none
  | [], _ => rfl
  | (k', v) :: rest, h => by
    simp only [akeys, List.map_cons, List.mem_cons, not_or] at h
    simp only [alookup, Ne.symm h.1, if_false]
    exact alookup_eq_none_of_not_mem (by simpa [akeys] using h.2)

theorem alookup_mixObjAux (k : String) : ∀ (i : List (String × V)) (seen : List String) (d : List (String × V)),
    alookup k (mixObjAux seen d i) =
      if seen.contains k then alookup k d else
      match alookup k i with
      | Option.none => alookup k d
      | some v => some (mixVal (alookup k d) v)
  | [], seen, d => by simp [mixObjAux, alookup]
  | (k', v) :: rest, seen, d => by
    simp only [mixObjAux, alookup, List.contains_eq_mem, decide_eq_true_eq]
    by_cases hs : k' ∈ seen <;> by_cases hk : k' = k
    · subst hk; simp [hs, alookup_mixObjAux k' rest]
    · simp [hs, hk, alookup_mixObjAux k rest]
    · subst hk; simp [hs, alookup_mixObjAux k' rest]
    · simp [hs, hk, Ne.symm hk, alookup_mixObjAux k rest, alookup_ainsert_other (Ne.symm hk)]

/-- holds without `Nodup`: of duplicate keys only the first counts, for `alookup` and for the merge (`seen`) alike -/
theorem alookup_mixObj' (k : String) (i d : List (String × V)) :
    alookup k (mixObj d i) = match alookup k i with
      | Option.none => alookup k d
      | some v => some (mixVal (alookup k d) v) := by
  simp [mixObj, alookup_mixObjAux]

theorem mixVal_of_not_dict (old : Option V) {v : V} (h : v.isDict = false) : mixVal old v = v := by
  cases v <;> first | rfl | cases h

/-- `dv` is the section `old` is, or `[]`; said as "a hit in `dv` is a hit in `old`", which is all its users need -/
theorem mixVal_section (old : Option V) (iv : List (String × V)) :
    ∃ dv, mixVal old (.dict iv) = .dict (mixObj dv iv) ∧ ∀ k x, alookup k dv = some x → old = some (.dict dv) := by
  unfold mixVal; split
  · exact ⟨_, rfl, fun _ _ _ => rfl⟩
  · exact ⟨[], rfl, fun _ _ h => nomatch h⟩

theorem mix_dict_right (a : V) (i : List (String × V)) : mix a (.dict i) = mixVal (some a) (.dict i) := by
  cases a <;> rfl

theorem mix_of_not_dict (a : V) {b : V} (h : b.isDict = false) : mix a b = a := by
  unfold mix; split <;> first | rfl | cases h

-- the `Nodup` hypothesis of these three is not used; C08's statements carry it
theorem mix_ingredient_scalar_wins (k : String) (i d : List (String × V)) (v : V) (_ : (akeys i).Nodup)
    (hv : alookup k i = some v) (hs : v.isDict = false) : alookup k (mixObj d i) = some v := by
  simp only [alookup_mixObj', hv, mixVal_of_not_dict _ hs]

theorem mix_sections_merge (k : String) (i d iv dv : List (String × V)) (_ : (akeys i).Nodup)
    (hi : alookup k i = some (.dict iv)) (hd : alookup k d = some (.dict dv)) :
    alookup k (mixObj d i) = some (.dict (mixObj dv iv)) := by
  simp only [alookup_mixObj', hi, hd]; rfl

theorem mix_keeps_other (k : String) (i d : List (String × V)) (_ : (akeys i).Nodup)
    (hi : alookup k i = Option.none) : alookup k (mixObj d i) = alookup k d := by
  rw [alookup_mixObj', hi]

/-- segments that `get_dotted_key` treats as names -/
def NoIdx (p : List String) : Prop := ∀ seg ∈ p, segIndex? seg = Option.none

theorem NoIdx.cons {seg : String} {p : List String} (h : NoIdx (seg :: p)) : segIndex? seg = Option.none ∧ NoIdx p :=
  ⟨h seg (by simp), fun s hs => h s (by simp [hs])⟩

theorem walk_dict_cons_found {seg : String} {rest : List String} {kvs : List (String × V)} {v : V} :
    walk (seg :: rest) (.dict kvs) = .found v ↔
      segIndex? seg = Option.none ∧ ∃ x, alookup seg kvs = some x ∧ walk rest x = .found v := by
  simp only [walk, step]
  cases segIndex? seg <;> cases alookup seg kvs <;> simp

theorem walk_mixVal_found : ∀ (ks : List String) (old : Option V) (b v : V), walk ks (mixVal old b) = .found v →
    (∃ a w, old = some a ∧ walk ks a = .found w) ∨ (∃ w, walk ks b = .found w)
  | [], _, b, _, _ => Or.inr ⟨b, rfl⟩
  | seg :: rest, old, b, v, h => by
    cases b with
    | dict iv =>
      obtain ⟨dv, hm, hold⟩ := mixVal_section old iv
      rw [hm, walk_dict_cons_found, alookup_mixObj'] at h
      obtain ⟨hi, x, hx, hw⟩ := h
      have left : ∀ y w, alookup seg dv = some y → walk rest y = .found w →
          ∃ a w, old = some a ∧ walk (seg :: rest) a = .found w := fun y w hy hw =>
        ⟨_, w, hold _ _ hy, walk_dict_cons_found.mpr ⟨hi, y, hy, hw⟩⟩
      cases hb : alookup seg iv with
      | none => rw [hb] at hx; exact Or.inl (left x v hx hw)
      | some vb =>
        rw [hb, Option.some.injEq] at hx
        subst hx
        rcases walk_mixVal_found rest _ vb v hw with ⟨y, w, hy, hw'⟩ | ⟨w, hw'⟩
        · exact Or.inl (left y w hy hw')
        · exact Or.inr ⟨w, walk_dict_cons_found.mpr ⟨hi, vb, hb, hw'⟩⟩
    | _ => exact Or.inr ⟨v, h⟩   -- a scalar or list replaces: `mixVal old b` is `b`

/-- **a key found in a merge is found in one of the two dictionaries** (`get_dotted_key` on `mix(a, b)`;
    no hypothesis on `a`, `b` or the path: index segments, strings, scalars and lists included) -/
theorem walk_mix_found : ∀ (ks : List String) (a b v : V), walk ks (mix a b) = .found v →
    (∃ w, walk ks a = .found w) ∨ (∃ w, walk ks b = .found w) := by
  intro ks a b v h
  cases b with
  | dict i =>
    rw [mix_dict_right] at h
    rcases walk_mixVal_found ks _ _ v h with ⟨_, w, ha, hw⟩ | hr
    · cases ha; exact Or.inl ⟨w, hw⟩
    · exact Or.inr hr
  | _ => exact Or.inl ⟨v, by rwa [mix_of_not_dict a rfl] at h⟩

theorem walk_mixVal_singleton {k : String} (hk : segIndex? k = Option.none) (rest : List String) (old : Option V) (x : V) :
    ∃ old', walk (k :: rest) (mixVal old (.dict [(k, x)])) = walk rest (mixVal old' x) := by
  obtain ⟨dv, hm, -⟩ := mixVal_section old [(k, x)]
  refine ⟨alookup k dv, ?_⟩
  rw [hm, mixObj_singleton]
  simp [walk, step, hk]

/-- the induction needs `∀ old` (whatever the entry held before) behind the `∃ sub`; `set_get` is `old = some (.dict d)` -/
theorem set_get_mixVal (v : V) (hv : v.isDict = false) : ∀ (p : List String), p ≠ [] → NoIdx p →
    ∃ sub, setPath p v [] = some sub ∧ ∀ old, walk p (mixVal old (.dict sub)) = .found v
  | [], h, _ => absurd rfl h
  | [k], _, hn => ⟨[(k, v)], rfl, fun old => by
      obtain ⟨old', h⟩ := walk_mixVal_singleton hn.cons.1 [] old v
      rw [h, mixVal_of_not_dict _ hv]; rfl⟩
  | k :: k2 :: rest, _, hn => by
    obtain ⟨sub, hsub, hw⟩ := set_get_mixVal v hv (k2 :: rest) (by simp) hn.cons.2
    refine ⟨[(k, .dict sub)], by simp [setPath, alookup, hsub, ainsert], fun old => ?_⟩
    obtain ⟨old', h⟩ := walk_mixVal_singleton hn.cons.1 (k2 :: rest) old (.dict sub)
    rw [h, hw]

/-- `Option.set` followed by a lookup: `get_dotted_key(k, mix(o, set_dotted_key(k, v, {}))) = v` for a
    non-mapping `v` and a key without index segments, whatever `o` contains -/
theorem set_get (v : V) (hv : v.isDict = false) : ∀ (p : List String), p ≠ [] → NoIdx p → ∀ (d : List (String × V)),
    ∃ sub, setPath p v [] = some sub ∧ walk p (.dict (mixObj d sub)) = .found v := fun p hp hn d =>
  have ⟨sub, hs, hw⟩ := set_get_mixVal v hv p hp hn
  ⟨sub, hs, hw (some (.dict d))⟩

theorem setPath_cons_eq {k : String} {rest : List String} {v : V} {d d' : List (String × V)}
    (h : setPath (k :: rest) v d = some d') : ∃ x, d' = ainsert k x d := by
  cases rest with
  | nil => exact ⟨v, by simpa [setPath] using h.symm⟩
  | cons k2 rest =>
    simp only [setPath] at h
    split at h
    · obtain ⟨sub, -, rfl⟩ := Option.map_eq_some_iff.mp h; exact ⟨_, rfl⟩
    · obtain ⟨sub, -, rfl⟩ := Option.map_eq_some_iff.mp h; exact ⟨_, rfl⟩
    · cases h

theorem alookup_setPath_other {k k' : String} {rest : List String} {v : V} {d d' : List (String × V)}
    (hne : k' ≠ k) (h : setPath (k :: rest) v d = some d') : alookup k' d' = alookup k' d := by
  obtain ⟨x, rfl⟩ := setPath_cons_eq h
  exact alookup_ainsert_other hne x d

theorem set_frame_top (v : V) (p : List String) (k k' : String) (rest : List String) (hp : p = k :: rest)
    (hne : k' ≠ k) (d sub : List (String × V)) (hs : setPath p v [] = some sub) :
    alookup k' (mixObj d sub) = alookup k' d := by
  subst hp
  rw [alookup_mixObj', alookup_setPath_other hne hs]
  rfl

end Labrea
