/-
  Hook — an abstraction of CPython class creation as far as labrea's four
  `__init_subclass__` hooks are concerned (labrea/types.py: Validatable, Cacheable, Explainable,
  Evaluatable).  Used by property C18.

  What is modelled
  * a class = its own `__dict__` restricted to the eight names `evaluate/validate/keys/explain`
    and `__labrea_evaluate__/…` (fields `attr`, `slot`), plus which of the four hooks its own
    `__init_subclass__` implements (`root`);
  * an MRO = list of classes, most derived first; attribute lookup = first own entry along it;
  * class creation (`mkClass`): the raw class from the body, then every hook whose root is a proper
    ancestor runs (`hookOrder`: bodies of the cooperative `__init_subclass__` run in reverse MRO
    order because each calls `super().__init_subclass__()` first), each doing
        if not hasattr(cls.m, "__labrea_wrapper__"):
            cls.__labrea_m__ = cls.m ; cls.m = <wrapper issuing Request_m(self).run()>
  * a class body may leave a method absent, `def` it, assign any existing function object
    (`Def.fn`: plain function, or a function on which the marker was set by hand = `Fn.fake`),
    or assign a genuine wrapper taken from some class (`Def.alias`; the annotation `src` is what
    that class runs under the default handler, i.e. what the author of the assignment expects),
    and may `def __labrea_m__` directly;
  * calling a method (`call`): a wrapper issues one request whose default handler runs
    `self.__labrea_m__`; anything else runs directly without a request.

  Abstracted away: all wrappers for the same method are identified (they are behaviourally
  identical closures); instance dictionaries, descriptors other than plain functions, metaclass
  attribute shadowing, `__init_subclass__` implementations that do not call `super()`; multiple
  inheritance is covered only through `lookup_inert` (bases that define none of the eight names and
  no hook are invisible) and bases made of several root classes.
  No Mathlib.
-/
namespace Labrea.Hook

inductive Meth where
  | evaluate | validate | keys | explain
  deriving DecidableEq, Repr, Inhabited

def Meth.all : List Meth := [.evaluate, .validate, .keys, .explain]

theorem Meth.mem_all (m : Meth) : m ∈ Meth.all := by cases m <;> simp [Meth.all]

theorem Meth.all_all (p : Meth → Bool) : Meth.all.all p = true ↔ ∀ m, p m = true := by
  simp [Meth.mem_all]

/-- Function objects. -/
inductive Fn where
  /-- `def m` in the body of class `cls` -/
  | user (cls : Nat) (m : Meth)
  /-- `def __labrea_m__` in the body of class `cls` (the roots' `raise NotImplementedError` stubs) -/
  | slotfn (cls : Nat) (m : Meth)
  /-- an unmarked function object created outside any class body -/
  | ext (id : Nat)
  /-- the closure made by the hook for `m`: `return Request_m(self, options).run()`; carries the marker -/
  | wrapper (m : Meth)
  /-- a function on which `__labrea_wrapper__` was set by hand: carries the marker, issues nothing -/
  | fake (id : Nat)
  deriving DecidableEq, Repr, Inhabited

/-- `hasattr(f, "__labrea_wrapper__")` -/
def Fn.marked : Fn → Bool
  | .wrapper _ => true
  | .fake _ => true
  | _ => false

/-- How a class body binds one of the four method names. -/
inductive Def where
  | absent
  | fn (f : Fn)
  /-- `m = X.m'` where `X.m'` is a genuine wrapper for `m'`; `src` = `X.__labrea_m'__` as resolved on `X` -/
  | alias (src : Option Fn) (m' : Meth)
  deriving DecidableEq, Repr, Inhabited

def Def.value : Def → Option Fn
  | .absent => none
  | .fn f => some f
  | .alias _ m' => some (.wrapper m')

structure Body where
  id : Nat
  meth : Meth → Def
  /-- the body contains `def __labrea_m__` -/
  slot : Meth → Bool
  /-- the body contains the labrea `__init_subclass__` for `m` -/
  root : Meth → Bool

structure Cls where
  id : Nat
  attr : Meth → Option Fn
  slot : Meth → Option Fn
  root : Meth → Bool

abbrev MRO := List Cls

def lookupAttr (m : Meth) : MRO → Option Fn
  | [] => none
  | c :: cs => match c.attr m with
    | some f => some f
    | none => lookupAttr m cs

def lookupSlot (m : Meth) : MRO → Option Fn
  | [] => none
  | c :: cs => match c.slot m with
    | some f => some f
    | none => lookupSlot m cs

/-- some proper ancestor implements the hook for `m` -/
def hooked (anc : MRO) (m : Meth) : Bool := anc.any (fun c => c.root m)

def setAt {α : Type} (f : Meth → α) (m : Meth) (a : α) : Meth → α :=
  fun k => if k = m then a else f k

/-- One `__init_subclass__` body for method `m`, run on the class `c` being created. -/
def runHook (m : Meth) (anc : MRO) (c : Cls) : Cls :=
  match lookupAttr m (c :: anc) with
  | some f =>
    if f.marked then c
    else { c with slot := setAt c.slot m (some f), attr := setAt c.attr m (some (.wrapper m)) }
  | none => c

def runHooks (ms : List Meth) (anc : MRO) (c : Cls) : Cls :=
  ms.foldl (fun c m => runHook m anc c) c

/-- Order in which the hook bodies run: reverse MRO (each calls `super()` first). -/
def hookOrder (anc : MRO) : List Meth :=
  anc.reverse.flatMap (fun c => Meth.all.filter c.root)

def rawClass (b : Body) : Cls :=
  { id := b.id
    attr := fun m => (b.meth m).value
    slot := fun m => if b.slot m then some (.slotfn b.id m) else none
    root := b.root }

def mkClass (b : Body) (anc : MRO) : Cls := runHooks (hookOrder anc) anc (rawClass b)

/-- MRO of the new class under single inheritance (inert bases dropped, see `lookup_inert`). -/
def extend (anc : MRO) (b : Body) : MRO := mkClass b anc :: anc

/-- Successive subclassing, bodies in creation order. -/
def build : MRO → List Body → MRO
  | w, [] => w
  | w, b :: bs => build (extend w b) bs

/-! ### Calling a method on an instance -/

structure Obs where
  /-- request types issued by the call itself -/
  requests : List Meth
  /-- the function whose body finally runs (under the default handler) -/
  ran : Option Fn
  deriving DecidableEq, Repr

def call (w : MRO) (m : Meth) : Obs :=
  match lookupAttr m w with
  | some (.wrapper m') => ⟨[m'], lookupSlot m' w⟩
  | some f => ⟨[], some f⟩
  | none => ⟨[], none⟩

/-- What runs when `m` is called and every request goes to its default handler. -/
def resolved (m : Meth) (w : MRO) : Option Fn := (call w m).ran

/-! ### The specification side: what the author of a chain of class bodies wrote -/

/-- The implementation designated by body `b` for `m`, `prev` being the inherited one. -/
def stepIntended (m : Meth) (prev : Option Fn) (b : Body) : Option Fn :=
  match b.meth m with
  | .fn f => some f
  | .alias src _ => if b.slot m then some (.slotfn b.id m) else src
  | .absent => if b.slot m then some (.slotfn b.id m) else prev

/-- Most-derived user implementation of `m` along a chain of bodies (creation order). -/
def intended (m : Meth) (r0 : Option Fn) (bs : List Body) : Option Fn :=
  bs.foldl (stepIntended m) r0

/-- The exact side conditions on one body (`wrapped`: the inherited attribute is already a
    wrapper for `m`; `prev`: the inherited implementation). -/
def StepOK (m : Meth) (wrapped : Bool) (prev : Option Fn) (b : Body) : Prop :=
  match b.meth m with
  | .absent => b.slot m = true → wrapped = true
  | .fn f => f.marked = false
  | .alias src m' => m' = m ∧ (b.slot m = false → src = prev ∧ wrapped = true)

instance (m : Meth) (wrapped : Bool) (prev : Option Fn) (b : Body) :
    Decidable (StepOK m wrapped prev b) := by
  unfold StepOK; split <;> infer_instance

def ChainOK (m : Meth) : Bool → Option Fn → List Body → Prop
  | _, _, [] => True
  | wr, prev, b :: bs => StepOK m wr prev b ∧ ChainOK m true (stepIntended m prev b) bs

instance instDecChainOK (m : Meth) : (wr : Bool) → (prev : Option Fn) → (bs : List Body) →
    Decidable (ChainOK m wr prev bs)
  | _, _, [] => isTrue trivial
  | wr, prev, b :: bs =>
    have := instDecChainOK m true (stepIntended m prev b) bs
    by unfold ChainOK; infer_instance

def wrappedAt (m : Meth) (w : MRO) : Bool := lookupAttr m w == some (.wrapper m)

/-- State of method `m` on the class with MRO `w`: either a genuine wrapper for `m` whose slot is
    `r`, or an unmarked function `r` itself (a root class, where the hook has not run). -/
def Inv (m : Meth) (w : MRO) (r : Option Fn) : Prop :=
  match lookupAttr m w with
  | some f => if f = .wrapper m then lookupSlot m w = r else f.marked = false ∧ r = some f
  | none => False

instance (m : Meth) (w : MRO) (r : Option Fn) : Decidable (Inv m w r) := by
  unfold Inv; split
  · split <;> infer_instance
  · infer_instance

/-! ### Inert bases (multiple inheritance as used by the package) -/

def Cls.inert (c : Cls) : Bool :=
  Meth.all.all fun m => (c.attr m).isNone && (c.slot m).isNone && !c.root m

/-! ### The class table generated from the package sources -/

structure Quad (α : Type) where
  evaluate : α
  validate : α
  keys : α
  explain : α
  deriving Repr

def Quad.get {α : Type} (q : Quad α) : Meth → α
  | .evaluate => q.evaluate
  | .validate => q.validate
  | .keys => q.keys
  | .explain => q.explain

/-- How the source text of a class body binds a method name. -/
inductive TDef where
  | absent
  /-- `def m(self, …)` (possibly `@abstractmethod`) -/
  | def_
  /-- `m = X.m'` with `X` the table class `cls` -/
  | from_ (cls : Nat) (m' : Meth)
  /-- `m = f` with `f` an undecorated module-level function -/
  | extfn (id : Nat)
  deriving DecidableEq, Repr

structure Entry where
  id : Nat
  name : String
  /-- bases that are table classes (descend from a root or are one), in base order -/
  parents : List Nat
  meth : Quad TDef
  slot : Quad Bool
  root : Quad Bool

/-- A table class after evaluation: the MRO of its (non-inert) ancestors and its body. -/
structure Row where
  id : Nat
  name : String
  anc : MRO
  body : Body

def Row.mro (r : Row) : MRO := extend r.anc r.body

def findRow (rows : List Row) (id : Nat) : Option Row := rows.find? (fun r => r.id == id)

/-- MRO of the ancestors: one table parent, or several parents that are all pure roots. -/
def entryAnc (rows : List Row) (ps : List Nat) : Option MRO :=
  match ps with
  | [] => some []
  | [p] => (findRow rows p).map Row.mro
  | ps => ps.foldr (fun p acc =>
      match findRow rows p, acc with
      | some r, some w => if r.anc.isEmpty then some (r.mro ++ w) else none
      | _, _ => none) (some [])

def resolveDef (rows : List Row) (id : Nat) (m : Meth) : TDef → Option Def
  | .absent => some .absent
  | .def_ => some (.fn (.user id m))
  | .extfn k => some (.fn (.ext k))
  | .from_ c m' =>
    match findRow rows c with
    | none => none
    | some r =>
      match lookupAttr m' r.mro with
      | some (.wrapper mm) => some (.alias (lookupSlot mm r.mro) mm)
      | some f => some (.fn f)
      | none => none

def entryBody (rows : List Row) (e : Entry) : Option Body :=
  match resolveDef rows e.id .evaluate e.meth.evaluate, resolveDef rows e.id .validate e.meth.validate,
        resolveDef rows e.id .keys e.meth.keys, resolveDef rows e.id .explain e.meth.explain with
  | some de, some dv, some dk, some dx =>
    some { id := e.id, meth := (Quad.mk de dv dk dx).get, slot := e.slot.get, root := e.root.get }
  | _, _, _, _ => none

/-- Evaluate the table in order (the translator emits bases before subclasses). `none` = a shape
    the model does not cover. -/
def evalTable : List Entry → List Row → Option (List Row)
  | [], rows => some rows
  | e :: es, rows =>
    match entryAnc rows e.parents, entryBody rows e with
    | some anc, some body => evalTable es (rows ++ [⟨e.id, e.name, anc, body⟩])
    | _, _ => none

/-- The premises of `hook_total` for one table class, for every method its ancestors hook. -/
def checkRow (r : Row) : Bool :=
  Meth.all.all fun m =>
    !hooked r.anc m ||
      (decide (Inv m r.anc (resolved m r.anc)) &&
       decide (StepOK m (wrappedAt m r.anc) (resolved m r.anc) r.body))

def tableCheck (t : List Entry) : Bool :=
  match evalTable t [] with
  | some rows => rows.all checkRow
  | none => false

/-- Purely syntactic: walking the bases upwards from `id`, the function written by the nearest
    class whose body `def`s `m` (or binds it to a module-level function). A body that re-binds an
    inherited wrapper (`m = Base.m`, validated by `tableCheck`) is looked through. -/
def mostDerivedDef (t : List Entry) (m : Meth) : Nat → Nat → Option Fn
  | 0, _ => none
  | fuel + 1, id =>
    match t.find? (fun e => e.id == id) with
    | none => none
    | some e =>
      match e.meth.get m with
      | .def_ => some (.user id m)
      | .extfn k => some (.ext k)
      | _ =>
        e.parents.foldl (fun acc p => match acc with
          | some x => some x
          | none => mostDerivedDef t m fuel p) none

/-- For every table class and hooked method: the slot found on the class is the `def` of the
    nearest defining class (syntactic walk), and the attribute is the wrapper. -/
def slotIsMostDerivedDef (t : List Entry) : Bool :=
  match evalTable t [] with
  | none => false
  | some rows => rows.all fun r => Meth.all.all fun m =>
      !hooked r.anc m ||
        (lookupAttr m r.mro == some (.wrapper m) &&
         lookupSlot m r.mro == mostDerivedDef t m (t.length + 1) r.id)

/-! ### Standard classes used in examples (ids as in the generated table) -/

def rootBody (id : Nat) (m : Meth) : Body :=
  { id := id
    meth := fun k => if k = m then .fn (.user id m) else .absent
    slot := fun k => k == m
    root := fun k => k == m }

/-- `Validatable`, `Cacheable`, `Explainable` as classes without hooked ancestors. -/
def stdValidatable : Cls := mkClass (rootBody 1 .validate) []
def stdCacheable : Cls := mkClass (rootBody 2 .keys) []
def stdExplainable : Cls := mkClass (rootBody 3 .explain) []

/-- MRO of the ancestors of `Evaluatable(Generic, Cacheable, Explainable, Validatable, ABC)`. -/
def stdRoots : MRO := [stdCacheable, stdExplainable, stdValidatable]

/-- MRO of `Evaluatable` itself. -/
def stdEvaluatable : MRO := extend stdRoots (rootBody 4 .evaluate)

/-- MRO of `Effect(Transformation, Validatable, Explainable, ABC)`. -/
def stdEffect : MRO :=
  extend [stdValidatable, stdExplainable]
    { id := 15, meth := fun _ => .absent, slot := fun _ => false, root := fun _ => false }

/-- a body that `def`s exactly the methods in `ms` -/
def defBody (id : Nat) (ms : List Meth) : Body :=
  { id := id
    meth := fun m => if ms.contains m then .fn (.user id m) else .absent
    slot := fun _ => false
    root := fun _ => false }

/-- a body that binds `m` to `d` and nothing else -/
def oneBody (id : Nat) (m : Meth) (d : Def) (slot : Bool := false) : Body :=
  { id := id
    meth := fun k => if k = m then d else .absent
    slot := fun k => slot && k == m
    root := fun _ => false }

end Labrea.Hook
