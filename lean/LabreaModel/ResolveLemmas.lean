/-
  `resolve` depends on the options only through the keys it reads (its read log).
-/
import LabreaModel.Resolve
namespace Labrea

abbrev RFun := V → Option (Except RErr V × List String)

theorem resolveList_congr (A : String → Prop) (f f' : RFun)
    (hf : ∀ v r rd, f v = some (r, rd) → (∀ k ∈ rd, A k) → f' v = some (r, rd)) :
    ∀ (xs : List V) r rd, resolveList f xs = some (r, rd) → (∀ k ∈ rd, A k) → resolveList f' xs = some (r, rd)
  | [], r, rd, h, _ => h
  | v :: rest, r, rd, h, ha => by
    simp only [resolveList] at h ⊢
    split at h
    · cases h
    · cases h; rw [hf v _ _ ‹_› ha]
    · rename_i v' rd1 hv
      have both : ∀ r2 rd2, resolveList f rest = some (r2, rd2) → (∀ k ∈ rd1 ++ rd2, A k) →
          f' v = some (.ok v', rd1) ∧ resolveList f' rest = some (r2, rd2) := fun _ _ hr ha =>
        ⟨hf v _ _ hv fun k hk => ha k (List.mem_append_left _ hk),
          resolveList_congr A f f' hf rest _ _ hr fun k hk => ha k (List.mem_append_right _ hk)⟩
      split at h
      · cases h
      · cases h; obtain ⟨h1, h2⟩ := both _ _ ‹_› ha; rw [h1, h2]
      · cases h; obtain ⟨h1, h2⟩ := both _ _ ‹_› ha; rw [h1, h2]

theorem resolveKvs_congr (A : String → Prop) (f f' : RFun)
    (hf : ∀ v r rd, f v = some (r, rd) → (∀ k ∈ rd, A k) → f' v = some (r, rd)) :
    ∀ (kvs : List (String × V)) r rd, resolveKvs f kvs = some (r, rd) → (∀ k ∈ rd, A k) → resolveKvs f' kvs = some (r, rd)
  | [], r, rd, h, _ => h
  | (k, v) :: rest, r, rd, h, ha => by
    simp only [resolveKvs] at h ⊢
    split at h
    · cases h
    · cases h; rw [hf v _ _ ‹_› ha]
    · rename_i v' rd1 hv
      have both : ∀ r2 rd2, resolveKvs f rest = some (r2, rd2) → (∀ k ∈ rd1 ++ rd2, A k) →
          f' v = some (.ok v', rd1) ∧ resolveKvs f' rest = some (r2, rd2) := fun _ _ hr ha =>
        ⟨hf v _ _ hv fun k hk => ha k (List.mem_append_left _ hk),
          resolveKvs_congr A f f' hf rest _ _ hr fun k hk => ha k (List.mem_append_right _ hk)⟩
      split at h
      · cases h
      · cases h; obtain ⟨h1, h2⟩ := both _ _ ‹_› ha; rw [h1, h2]
      · cases h; obtain ⟨h1, h2⟩ := both _ _ ‹_› ha; rw [h1, h2]

theorem substKeys_acc (o : V) : ∀ (ks : List String) (s : String) (acc : List String) r rd,
    substKeys o ks s acc = (r, rd) → ∃ more, rd = acc ++ more
  | [], s, acc, r, rd, h => by simp only [substKeys, Prod.mk.injEq] at h; exact ⟨[], by simp [h.2]⟩
  | k :: ks, s, acc, r, rd, h => by
    simp only [substKeys] at h
    split at h
    · obtain ⟨m, hm⟩ := substKeys_acc o ks _ _ r rd h
      exact ⟨k :: m, by simp [hm]⟩
    · simp only [Prod.mk.injEq] at h; exact ⟨[k], h.2.symm⟩
    · simp only [Prod.mk.injEq] at h; exact ⟨[k], h.2.symm⟩

theorem substKeys_congr (o o' : V) : ∀ (ks : List String) (s : String) (acc : List String) r rd,
    substKeys o ks s acc = (r, rd) → (∀ k ∈ rd, getDotted k o' = getDotted k o) → substKeys o' ks s acc = (r, rd)
  | [], s, acc, r, rd, h, _ => h
  | k :: ks, s, acc, r, rd, h, ha => by
    simp only [substKeys] at h ⊢
    -- `k` is in the read log whatever its lookup gives
    cases hg : getDotted k o with
    | found v =>
      simp only [hg] at h
      obtain ⟨m, rfl⟩ := substKeys_acc o ks _ _ r rd h
      simp only [ha k (by simp), hg]
      exact substKeys_congr o o' ks _ _ r _ h ha
    | keyErr => simp only [hg] at h; cases h; simp only [ha k (by simp), hg]
    | typeErr => simp only [hg] at h; cases h; simp only [ha k (by simp), hg]

/-- **reads determine the result.** If `o'` answers every lookup of the read log as `o` does, resolving
    under `o'` gives the same result and the same read log. -/
theorem resolveR_congr (o o' : V) : ∀ (n : Nat) (x : V) r rd, resolveR n x o = some (r, rd) →
    (∀ k ∈ rd, getDotted k o' = getDotted k o) → resolveR n x o' = some (r, rd)
  | 0, x, r, rd, h, _ => by simp [resolveR] at h
  | n + 1, x, r, rd, h, ha => by
    have ih := resolveR_congr o o' n
    unfold resolveR at h ⊢
    split at h
    · have key := resolveKvs_congr (fun k => getDotted k o' = getDotted k o) _ (fun v => resolveR n v o') ih
      split at h
      · cases h
      · cases h; rw [key _ _ _ ‹_› ha]
      · cases h; rw [key _ _ _ ‹_› ha]
    · have key := resolveList_congr (fun k => getDotted k o' = getDotted k o) _ (fun v => resolveR n v o') ih
      split at h
      · cases h
      · cases h; rw [key _ _ _ ‹_› ha]
      · cases h; rw [key _ _ _ ‹_› ha]
    · split at h
      · exact h
      · rename_i k ks _
        split at h
        · -- a whole-string reference `{k}`: `k` heads the read log, whatever the lookup gives
          rename_i hc
          rw [if_pos hc]
          cases hg : getDotted k o with
          | found w =>
            simp only [hg] at h
            split at h
            · cases h
            · rename_i hr
              cases h
              simp only [ha k List.mem_cons_self, hg, ih _ _ _ hr fun k' hk' => ha k' (List.mem_cons_of_mem _ hk')]
          | keyErr => simp only [hg] at h; cases h; simp only [ha k List.mem_cons_self, hg]
          | typeErr => simp only [hg] at h; cases h; simp only [ha k List.mem_cons_self, hg]
        · -- embedded references: substitute them all, then resolve the new text
          rename_i hc
          rw [if_neg hc]
          split at h
          · rename_i hs
            cases h
            simp only [substKeys_congr o o' _ _ _ _ _ hs ha]
          · rename_i hs
            split at h
            · cases h
            · rename_i hr
              cases h
              simp only [substKeys_congr o o' _ _ _ _ _ hs fun k' hk' => ha k' (List.mem_append_left _ hk'),
                ih _ _ _ hr fun k' hk' => ha k' (List.mem_append_right _ hk')]
    · exact h

end Labrea
